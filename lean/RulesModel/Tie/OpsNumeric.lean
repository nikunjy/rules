import RulesModel.Tie.SameTable
/-! Tie (IntOperation and FloatOperation): shapes of the methods as read from the Go source by the translator -/
namespace Rules.Tie
theorem OpsNumeric_keys : (rowsOf ["IntOperation.", "FloatOperation."] Generated.opTable).map (·.1) = (rowsOf ["IntOperation.", "FloatOperation."] Expected.opTable).map (·.1) := by
  same_table_or_eval (· ▸ rfl)
theorem OpsNumeric_tie : (rowsOf ["IntOperation.", "FloatOperation."] Generated.opTable).all (rowOK Expected.opTable) = true := by
  same_table_or_eval rows_of_same _
/-- semantic form: each recognised row parses to the code whose meaning `TableSem.opTable_sem` proves to be the model's function -/
theorem OpsNumeric_sem : TableSem.codesOK Generated.opTable [.int, .float] = true := by
  same_table_or_eval codesOK_of_same _
end Rules.Tie
