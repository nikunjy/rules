import RulesModel.Tie.SameTable
/-! Tie (StringOperation): shapes of the methods as read from the Go source by the translator -/
namespace Rules.Tie
theorem OpsString_keys : (rowsOf ["StringOperation."] Generated.opTable).map (·.1) = (rowsOf ["StringOperation."] Expected.opTable).map (·.1) := by
  same_table_or_eval (· ▸ rfl)
theorem OpsString_tie : (rowsOf ["StringOperation."] Generated.opTable).all (rowOK Expected.opTable) = true := by
  same_table_or_eval rows_of_same _
/-- semantic form: each recognised row parses to the code whose meaning `TableSem.opTable_sem` proves to be the model's function -/
theorem OpsString_sem : TableSem.codesOK Generated.opTable [.string] = true := by
  same_table_or_eval codesOK_of_same _
end Rules.Tie
