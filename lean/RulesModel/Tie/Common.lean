import RulesModel.Expected.LexTable
import RulesModel.Generated.Facts
/-! helpers for the per-family ties of the operation table (DESIGN §4.1): a row the extractor no longer recognises is not claimed, a recognised row must be the expected one -/
namespace Rules.Tie
def rowOK (exp : List (String × String)) (row : String × String) : Bool :=
  row.2 == "unrecognised" || exp.contains row
def rowsOf (pre : List String) (t : List (String × String)) : List (String × String) :=
  t.filter (fun r => pre.any (fun p => p.isPrefixOf r.1))
end Rules.Tie
