import RulesModel.Expected.LexTable
import RulesModel.Generated.Facts
/-! Tie: token constants of the generated Go parser/lexer = numbering the model uses (= order of the .g4). -/
namespace Rules.Tie
-- compared as literals, not by deciding string equality (see `Tie/LexTable.lean`)
theorem tokenConsts_tie : Generated.tokenConsts = Expected.tokenConsts := by
  delta Generated.tokenConsts Expected.tokenConsts; with_reducible rfl
theorem lexerConsts_tie : Generated.lexerConsts = Expected.lexerConsts := by
  delta Generated.lexerConsts Expected.lexerConsts; with_reducible rfl
end Rules.Tie
