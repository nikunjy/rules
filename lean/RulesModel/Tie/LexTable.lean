import RulesModel.Expected.LexTable
import RulesModel.Generated.Grammar
/-! Tie: the token table regenerated from parser/JsonQuery.g4 is the frozen one. The lexer theorems hold for any table
and the named lexical facts are evaluated on `Generated.lexerRules`: this tie only tells whether the case generator is
stale (DESIGN §4.1). -/
namespace Rules.Tie
theorem g4_readable : Generated.g4ok = true := by decide +kernel
-- both sides are unfolded and compared as literals; deciding string equality costs the kernel thousands of steps per character
theorem lexerRules_tie : Generated.lexerRules = jqRules := by
  delta Generated.lexerRules jqRules; with_reducible rfl
theorem lexerRuleNames_tie : Generated.lexerRuleNames = Expected.lexerRuleNames := by
  delta Generated.lexerRuleNames Expected.lexerRuleNames; with_reducible rfl
theorem spellings_tie : Generated.spellings = Expected.spellings := by
  delta Generated.spellings Expected.spellings; with_reducible rfl
end Rules.Tie
