import RulesModel.Tie.SameTable
/-! Tie (VersionOperation): shapes of the methods as read from the Go source by the translator -/
namespace Rules.Tie
theorem OpsVersion_keys : (rowsOf ["VersionOperation."] Generated.opTable).map (·.1) = (rowsOf ["VersionOperation."] Expected.opTable).map (·.1) := by
  same_table_or_eval (· ▸ rfl)
theorem OpsVersion_tie : (rowsOf ["VersionOperation."] Generated.opTable).all (rowOK Expected.opTable) = true := by
  same_table_or_eval rows_of_same _
/-- semantic form: each recognised row parses to the code whose meaning `TableSem.opTable_sem` proves to be the model's function -/
theorem OpsVersion_sem : TableSem.codesOK Generated.opTable [.version] = true := by
  same_table_or_eval codesOK_of_same _
end Rules.Tie
