import RulesModel.Tie.SameTable
/-! Tie (NullOperation and BoolOperation): shapes of the methods as read from the Go source by the translator -/
namespace Rules.Tie
theorem OpsNullBool_keys : (rowsOf ["NullOperation.", "BoolOperation."] Generated.opTable).map (·.1) = (rowsOf ["NullOperation.", "BoolOperation."] Expected.opTable).map (·.1) := by
  same_table_or_eval (· ▸ rfl)
theorem OpsNullBool_tie : (rowsOf ["NullOperation.", "BoolOperation."] Generated.opTable).all (rowOK Expected.opTable) = true := by
  same_table_or_eval rows_of_same _
/-- semantic form: each recognised row parses to the code whose meaning `TableSem.opTable_sem` proves to be the model's function -/
theorem OpsNullBool_sem : TableSem.codesOK Generated.opTable [.null, .bool] = true := by
  same_table_or_eval codesOK_of_same _
end Rules.Tie
