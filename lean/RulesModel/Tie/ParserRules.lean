import RulesModel.Expected.LexTable
import RulesModel.Generated.Grammar
/-! Tie: the parser productions of JsonQuery.g4 are the ones the derivation relation `P.D` was written from. -/
namespace Rules.Tie
-- compared as literals, not by deciding string equality (see `Tie/LexTable.lean`)
theorem parserRules_tie : Generated.parserRules = Expected.parserRules := by
  delta Generated.parserRules Expected.parserRules; with_reducible rfl
end Rules.Tie
