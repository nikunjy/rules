import RulesModel.Tie.Common
/-! Tie (support table, C06): which (Operation type, operator) pairs are `return false, ErrInvalidOperation`
(directly or inherited from the embedded NullOperation) -/
namespace Rules.Tie
def isInvalid (r : String × String) : Bool := r.2 == "invalid" || r.2 == "inherit:NullOperation"
theorem support_tie : (Generated.opTable.filter isInvalid).map (·.1) = (Expected.opTable.filter isInvalid).map (·.1) := by decide +kernel
theorem support_recognised : (Generated.opTable.filter (fun r => r.2 == "unrecognised" && (Expected.opTable.filter isInvalid).any (fun e => e.1 == r.1))) = [] := by decide +kernel
end Rules.Tie
