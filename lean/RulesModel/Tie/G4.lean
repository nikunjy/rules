import RulesModel.Generated.Grammar
/-! Tie: parser/JsonQuery.g4 was read by the translator, so the token table the driver lexes with is the file's. -/
namespace Rules.Tie
theorem g4_readable : Generated.g4ok = true := by decide +kernel
end Rules.Tie
