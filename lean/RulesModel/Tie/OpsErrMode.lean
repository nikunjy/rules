import RulesModel.Tie.Common
import RulesModel.Proofs.Chars
/-! Tie (error mode, C16): every relational method returns the operand error of `get` (no method swallows it) -/
namespace Rules.Tie
theorem errMode_tie : (Generated.opTable.filter (fun r => "swallow".toList.isSuffixOf r.2.toList)) = [] := by
  simp only [toList_eq_chars]
  decide +kernel
end Rules.Tie
