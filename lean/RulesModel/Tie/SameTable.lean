import RulesModel.Tie.Common
import RulesModel.Proofs.TableSem
/-! When the regenerated operation table is the frozen one, the per-family ties need no evaluation: a table's rows are
its own rows, and the frozen table resolves to the codes the model was written from. -/
namespace Rules.Tie

/-- `same_table_or_eval e` closes the goal with `e h`, where `h : Generated.opTable = Expected.opTable` holds because the
two constants unfold to the same literal (nothing is evaluated: comparing strings costs the kernel thousands of steps per
character). When the tables differ it evaluates the goal in the kernel instead, so that the tie of one family still
holds when only rows of another family have changed. -/
macro "same_table_or_eval " e:term : tactic =>
  `(tactic| first
    | (have h : Generated.opTable = Expected.opTable := by delta Generated.opTable Expected.opTable; with_reducible rfl
       exact $e h)
    | decide +kernel)

theorem rows_of_same (pre : List String) {g e : List (String × String)} (h : g = e) :
    (rowsOf pre g).all (rowOK e) = true := by
  subst h
  simp only [rowsOf, rowOK, List.all_eq_true, List.mem_filter, Bool.or_eq_true, List.contains_iff_mem]
  exact fun r hr => .inr hr.1

theorem codesOK_of_same (ks : List OpKind) {g : List (String × String)} (h : g = Expected.opTable) :
    TableSem.codesOK g ks = true := by
  subst h
  simp [TableSem.codesOK, TableSem.expected_resolves]

end Rules.Tie
