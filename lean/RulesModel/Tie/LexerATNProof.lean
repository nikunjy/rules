import RulesModel.Generated.LexerATN
import RulesModel.Generated.Grammar
import RulesModel.Model.Lexer
import RulesModel.Proofs.FastCert
/-!
The shipped lexer tables accept the token languages of the grammar, as a theorem. `Generated/LexerATN.lean` is the
serialised ATN of `jsonquery_lexer.go`, decoded by the translator on this run; `Generated/Grammar.lean` holds the token
rules of `JsonQuery.g4` as regexes. For every token rule, in the priority order of the grammar, the kernel searches and
checks a bisimulation certificate between the two (`tables_checked`, through `NFA.ruleOKFast`, which implies `ruleOK` and
is written for the kernel: indexed edge lookup, reachability instead of justification sets); `NFA.rule_equiv` makes it a
statement about all strings (`lexer_atn_language`).
`model_token_on_tables` then says on those tables what the model's lexer does when it takes a token.

Trusted here: the decoder of the serialised form and the emitter of `Generated/LexerATN.lean` (extract/atn.go, ~100 lines
each) and `NFA.atnM` as the meaning of a lexer ATN (DESIGN §4.5). The translator's own verdict on the comparison is `Tie/LexerATN`.
-/
namespace Rules.Tie
open Rules Rules.NFA

/-- rule `i` of the grammar against row `i` of the tables; 400 bounds the rounds of the search and of each ε-closure (both
stop by themselves when nothing new is found; a certificate cut short by the bound would fail `checkCert`) -/
def atnRowOK (kr : Kind × Regex) (row : Nat × Nat × Nat × List (Nat × Nat)) : Bool :=
  decide (kr.1 = row.1) && ruleOK Generated.lexerAtnData kr.2 row.2.1 row.2.2.1 row.2.2.2 400

def atnRowsOK : List (Kind × Regex) → List (Nat × Nat × Nat × List (Nat × Nat)) → Bool
  | [], [] => true
  | kr :: krs, row :: rows => atnRowOK kr row && atnRowsOK krs rows
  | _, _ => false

theorem atnRowsOK_iff : ∀ {krs : List (Kind × Regex)} {rows : List (Nat × Nat × Nat × List (Nat × Nat))},
    atnRowsOK krs rows = true ↔ krs.length = rows.length ∧ ∀ p ∈ krs.zip rows, atnRowOK p.1 p.2 = true
  | [], [] => ⟨fun _ => ⟨rfl, nofun⟩, fun _ => rfl⟩
  | kr :: krs, row :: rows => by
    rw [atnRowsOK, Bool.and_eq_true, atnRowsOK_iff (krs := krs), List.zip_cons_cons, List.length_cons, List.length_cons,
      Nat.add_right_cancel_iff, List.forall_mem_cons, and_left_comm]
  | [], _ :: _ => ⟨nofun, fun h => nomatch h.1⟩
  | _ :: _, [] => ⟨nofun, fun h => nomatch h.1⟩

def atnRowFast (kr : Kind × Regex) (row : Nat × Nat × Nat × List (Nat × Nat)) : Bool :=
  decide (kr.1 = row.1) && ruleOKFast (atnMI Generated.lexerAtnData row.2.2.1) kr.2 row.2.1 row.2.2.2 400

theorem atnRowFast_sound {kr : Kind × Regex} {row : Nat × Nat × Nat × List (Nat × Nat)} (h : atnRowFast kr row = true) :
    atnRowOK kr row = true := by
  simp only [atnRowFast, atnRowOK, Bool.and_eq_true] at h ⊢
  exact ⟨h.1, ruleOKFast_sound _ _ _ _ _ _ h.2⟩

theorem tables_checked : atnRowsOK Generated.lexerRules Generated.lexerAtnRules = true :=
  have h : ((Generated.lexerRules.zip Generated.lexerAtnRules).all fun p => atnRowFast p.1 p.2) = true := by
    decide +kernel
  atnRowsOK_iff.2 ⟨by decide, fun p hp => atnRowFast_sound (List.all_eq_true.1 h p hp)⟩

/-- **For every token rule of the grammar, the shipped tables accept exactly the strings the rule matches** (and the rules
come in the same priority order with the same token types). -/
theorem lexer_atn_language :
    Generated.lexerRules.length = Generated.lexerAtnRules.length ∧
    ∀ i (h1 : i < Generated.lexerRules.length) (h2 : i < Generated.lexerAtnRules.length) (s : List Char),
      (Generated.lexerRules[i]).1 = (Generated.lexerAtnRules[i]).1 ∧
      (Lang (atnM Generated.lexerAtnData (Generated.lexerAtnRules[i]).2.2.1) ((Generated.lexerAtnRules[i]).2.1, []) s ↔
        Regex.Matches (Generated.lexerRules[i]).2 s) := by
  obtain ⟨hl, hg⟩ := atnRowsOK_iff.1 tables_checked
  refine ⟨hl, fun i h1 h2 s => ?_⟩
  have := hg _ (List.getElem_mem (List.length_zip ▸ Nat.lt_min.2 ⟨h1, h2⟩))
  rw [List.getElem_zip] at this
  simp only [atnRowOK, Bool.and_eq_true, decide_eq_true_eq] at this
  exact ⟨this.1, rule_equiv _ _ _ _ _ _ this.2 s⟩

/-- non-vacuity: there are token rules -/
example : Generated.lexerAtnRules.length = 30 := by decide

open Rules.Regex

def TablesAccept (i : Nat) (w : List Char) : Prop :=
  ∃ h2 : i < Generated.lexerAtnRules.length,
    Lang (atnM Generated.lexerAtnData (Generated.lexerAtnRules[i]).2.2.1) ((Generated.lexerAtnRules[i]).2.1, []) w

theorem tablesAccept_iff (i : Nat) (h1 : i < Generated.lexerRules.length) (w : List Char) :
    TablesAccept i w ↔ Matches (Generated.lexerRules[i]).2 w := by
  obtain ⟨hl, hg⟩ := lexer_atn_language
  have h2 : i < Generated.lexerAtnRules.length := hl ▸ h1
  constructor
  · rintro ⟨h2', h⟩; exact ((hg i h1 h2' w).2).1 h
  · intro h; exact ⟨h2, ((hg i h1 h2 w).2).2 h⟩

/-- **The token the model's lexer takes, stated on the shipped tables.** When the maximal-munch lexer of the model takes
a token of kind `k` and length `n` at the front of `s`, then for the *tables of `jsonquery_lexer.go`*: some token rule `i`
with token type `k` accepts the prefix of length `n`, no token rule accepts a longer prefix, and no rule listed before `i`
accepts that prefix – the longest-match / first-rule choice of the ANTLR lexer. -/
theorem model_token_on_tables (s : List Char) (k : Kind) (n : Nat)
    (h : bestMatch Generated.lexerRules s = some (k, n)) :
    0 < n ∧ ∃ i, ∃ h2 : i < Generated.lexerAtnRules.length, (Generated.lexerAtnRules[i]).1 = k ∧ TablesAccept i (s.take n) ∧
      (∀ j m, n < m → m ≤ s.length → ¬ TablesAccept j (s.take m)) ∧
      (∀ j, j < i → ¬ TablesAccept j (s.take n)) := by
  obtain ⟨hl, hg⟩ := lexer_atn_language
  obtain ⟨hpos, i, hi, rfl, rfl, hmax, hfirst⟩ := bestMatch_eq_some_iff.1 h
  have h2 : i < Generated.lexerAtnRules.length := hl ▸ hi
  -- a prefix the tables accept for rule `j` is at most as long as rule `j`'s longest match
  have hle : ∀ {j m}, m ≤ s.length → (hacc : TablesAccept j (s.take m)) →
      m ≤ (Generated.lexerRules[j]'(hl ▸ hacc.1)).2.matchLen s :=
    fun hm hacc => le_matchLen hm ((tablesAccept_iff _ (hl ▸ hacc.1) _).1 hacc)
  refine ⟨hpos, i, h2, ((hg i hi h2 []).1).symm, (tablesAccept_iff i hi _).2 (matches_matchLen hpos), ?_, ?_⟩
  · intro j m hnm hms hacc
    have := hmax _ (List.getElem_mem (hl ▸ hacc.1))
    have := hle hms hacc
    omega
  · intro j hji hacc
    have := hfirst j (hl ▸ hacc.1) hji
    have := hle (matchLen_le _ s) hacc
    omega

end Rules.Tie
