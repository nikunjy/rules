import RulesModel.Proofs.Render
import RulesModel.Proofs.LexAdj
/-!
C15 for sentences. `C15_render` needs `wf rules cl t`: every name, literal and connective of the tree is a canonical token
of its kind. Here that hypothesis is derived for every tree that comes out of lexing and parsing a rule text: every token
the lexer produces is canonical (`lex_canon`, from `C20_priority`, any table), and a tree the grammar derives from good
tokens is well-formed (`wf_of_D`). What remains in `C15_sentences` are facts about the table.
-/
namespace Rules
open Rules.Regex

theorem lex_canon (rules : List (Kind × Regex)) (s : List Char) (ts : List Token) (h : lex rules s = some ts) :
    ∀ t ∈ ts, canonB rules t = true := fun t ht =>
  let ⟨_, hr⟩ := (lex_eq_some_iff.1 h).2.takes t ht
  (canonB_iff rules t).2 hr.canon
end Rules

namespace Rules.Render
open Rules.P Rules

def GoodTok (rules : List (Kind × Regex)) (cl : List Char → Bool) (x : Tok) : Prop := okTok rules cl x.kind x.text = true

section
variable {rules : List (Kind × Regex)} {cl : List Char → Bool}

theorem all_of_DPath {ps p} (h : DPath ps p) (hg : ∀ x ∈ ps, GoodTok rules cl x) : p.all (okTok rules cl ATTR) = true := by
  induction h with
  | one n => simpa [GoodTok] using hg
  | dot n d _ ih =>
    simp only [List.forall_mem_cons] at hg
    simpa [ih hg.2.2, GoodTok] using hg.1

theorem all_of_DList {k ts xs} (h : DList k ts xs) (hg : ∀ x ∈ ts, GoodTok rules cl x) : xs.all (okTok rules cl k) = true := by
  induction h with
  | last t b => simpa [GoodTok] using (List.forall_mem_cons.1 hg).1
  | cons t c _ ih =>
    simp only [List.forall_mem_cons] at hg
    simpa [ih hg.2.2, GoodTok] using hg.1

theorem DPath_ne {ps p} (h : DPath ps p) : p ≠ [] := by cases h <;> simp
theorem DList_ne {k ts xs} (h : DList k ts xs) : xs ≠ [] := by cases h <;> simp

theorem wfLit_of_DValue {vs v} (h : DValue vs v) (hg : ∀ x ∈ vs, GoodTok rules cl x) : wfLit rules cl v = true := by
  cases h with
  | null t => rfl
  | bool t | version t | str t | double t => simpa [wfLit, GoodTok] using hg
  | long m i e =>
    simp only [List.forall_mem_append, List.forall_mem_singleton, List.forall_mem_map, Option.mem_toList] at hg
    rw [wfLit, Bool.and_eq_true, Option.all_eq_true]
    exact ⟨hg.1.2, hg.2⟩
  | list k hk b hlst =>
    simpa [wfLit, all_of_DList hlst (List.forall_mem_cons.1 hg).2, DList_ne hlst, or_assoc] using hk
end

theorem wf_of_D (rules : List (Kind × Regex)) (cl : List Char → Bool) : ∀ {b ts t}, D b ts t → (∀ x ∈ ts, GoodTok rules cl x) →
    wf rules cl t = true := by
  intro b ts t h
  induction h with
  | paren n s1 s2 s3 l r _ ih =>
    intro hg
    -- `hg` splits along the appends of the production; the component for the inner tokens
    simp only [List.forall_mem_append] at hg
    exact ih hg.1.1.2
  | present s pr hpth =>
    intro hg
    simp only [List.forall_mem_append] at hg
    exact wfPath_iff.2 ⟨DPath_ne hpth, all_of_DPath hpth hg.1⟩
  | compare s1 o s2 k hk hpth hv =>
    intro hg
    simp only [List.forall_mem_append] at hg
    simp [wf, hk, wfPath_iff.2 ⟨DPath_ne hpth, all_of_DPath hpth hg.1.1⟩, wfLit_of_DValue hv hg.2]
  | prim _ ih => exact ih
  | @logical s1 op s2 _ _ _ t2 _ hr ih1 ih2 =>
    intro hg
    simp only [List.forall_mem_append, List.forall_mem_cons] at hg
    have hp : isPrimary t2 = true := by cases hr <;> rfl
    simpa [wf, ih1 hg.1.1, ih2 hg.2, hp, GoodTok] using hg.1.2.2.1

/-- **C15 for every sentence.** Let `s` be any rule text the grammar accepts, `t` its tree. Then every rendering of `t` –
every choice of the free spellings, optional blanks, newlines, comma blanks – is read back as `t`, provided the table's
string literals are closed (a property of the table, `hstr`; proved for the regenerated table in `C15StringClosed`) and the
table separates neighbouring tokens (`TableOK`; for the regenerated table `table_ok` in `C15StringClosed`). Nothing is assumed
about `s` itself: negative integers and integers with exponents are covered. -/
theorem C15_sentences (rules : List (Kind × Regex)) (htab : TableOK rules) (hsp : spellOK rules = true)
    (hstr : ∀ x : Token, Canon rules x → x.kind = STRING → ClosedP rules x.text)
    (s : List Char) (ts : List Token) (t : Tree) (hl : lex rules s = some ts) (hpar : P.parse (ts.map toTok) = some t)
    (sty : Sty) :
    lexParse rules (text (render sty [] t)) = some t := by
  -- every token of a sentence is canonical, so its tree is well-formed for the trivial test on string literals
  have hg : ∀ x ∈ ts.map toTok, GoodTok rules (fun _ => true) x := by
    simp only [List.forall_mem_map]
    intro tok htok
    have hround : tkS tok.kind (String.ofList tok.text) = tok := by cases tok; simp [tkS]
    simp [GoodTok, okTok, toTok, hround, lex_canon rules s ts hl tok htok]
  exact render_roundtrip htab hsp (fun x hx hk _ => hstr x hx hk) (wf_of_D rules _ ((P.parse_iff _ _).1 hpar) hg) sty
end Rules.Render
