import RulesModel.Model.Spec
/-!
The algebra of `Out` and the one-step equations of `evalOut`, `reached`, `toProc`, so that the property files need not
unfold the compositional semantics: a connective evaluates its right operand exactly when the left one is the
connective's neutral verdict (`true` for `and`, `false` for `or`); a `not` maps the outcome through `Out.not`.
-/
namespace Rules
open Rules.P (Tree Lit Kind)

def isVerdict (r : Res) : Bool := match r with | .verdict _ => true | _ => false
def verdictOf (o : Out) : Bool := match o.res with | .verdict b => b | _ => false

theorem isVerdict_iff {r : Res} : isVerdict r = true ↔ ∃ b, r = .verdict b := by
  cases r <;> simp [isVerdict]

def neutral (op : String) : Bool := op ≠ "or"

/-- the short-circuit test as `evalOut`, `reached`, `visit` and `combine` all write it -/
theorem ite_shortCircuit {α} (op : String) (x : Bool) (stop go : α) :
    (if op = "or" then (if x then stop else go) else (if !x then stop else go)) =
      if x = neutral op then go else stop := by
  by_cases h : op = "or" <;> cases x <;> simp [neutral, h]

def Out.not (o : Out) : Out :=
  match o.res with
  | .verdict b => { o with res := .verdict !b }
  | _ => o

namespace Out
variable (a b c : Out)

theorem seq_res : (a.seq b).res = b.res := rfl
@[simp] theorem seq_calls : (a.seq b).calls = a.calls ++ b.calls := rfl
theorem seq_dbg : (a.seq b).dbg = b.dbg.or a.dbg := by simp [seq]

theorem seq_assoc : (a.seq b).seq c = a.seq (b.seq c) := by
  simp [seq, Option.or_assoc]

@[simp] theorem not_dbg : a.not.dbg = a.dbg := by unfold Out.not; split <;> rfl
@[simp] theorem not_calls : a.not.calls = a.calls := by unfold Out.not; split <;> rfl
@[simp] theorem not_res_eq_verdict (x : Bool) : a.not.res = .verdict x ↔ a.res = .verdict !x := by
  unfold Out.not; cases h : a.res <;> simp [h]
theorem isVerdict_not : isVerdict a.not.res = isVerdict a.res := by
  unfold Out.not; cases h : a.res <;> simp [h, isVerdict]
theorem not_of_not_verdict (h : isVerdict a.res = false) : a.not = a := by
  unfold Out.not; cases h' : a.res <;> simp_all [isVerdict]

@[simp] theorem not_not : a.not.not = a := by
  obtain ⟨r, d, c⟩ := a; cases r <;> simp [Out.not]
theorem not_seq : a.not.seq b = a.seq b := by simp [seq]
theorem seq_not : a.seq b.not = (a.seq b).not := by
  obtain ⟨r, d, c⟩ := b; cases r <;> simp [Out.not, seq]

end Out

/-- how `VisitCompareExp` reads the result of an `Operation` method -/
def Out.ofOpRes : OpRes → Out
  | .panic c => ⟨.panic .stringer, none, c⟩
  | .ok b c => ⟨.verdict b, none, c⟩
  | .err .invalidOperation c => ⟨.fail .invalidOperation, some .invalidOperation, c⟩
  | .err e c => ⟨.verdict false, some (dbgOfErr e), c⟩

theorem leafOut_compare {lower : Bytes → Bytes} {item : List (Bytes × Value)} {path : List String} {k : Kind} {lit : Lit}
    {v : Value} {kind : OpKind} {r : ROp} {op : CmpOp}
    (hd : denote item path = .ok v) (hl : litOperand lit = some (kind, r)) (hk : cmpOfKind k = some op) :
    leafOut lower item (.compare path k lit) = .ofOpRes (apply lower kind op v r) := by
  simp only [leafOut, hd, hl, hk]; unfold Out.ofOpRes; split <;> simp [*]

section
variable (lower : Bytes → Bytes) (item : List (Bytes × Value))

theorem evalOut_paren (neg : Bool) (q : Tree) :
    evalOut lower item (.paren neg q) = if neg then (evalOut lower item q).not else evalOut lower item q := by
  simp only [evalOut, Out.not]
  cases neg <;> cases h : (evalOut lower item q).res <;> simp [← h]

theorem evalOut_logical (op : String) (l r : Tree) :
    evalOut lower item (.logical op l r) =
      if (evalOut lower item l).res = .verdict (neutral op) then (evalOut lower item l).seq (evalOut lower item r)
      else evalOut lower item l := by
  simp only [evalOut]
  cases (evalOut lower item l).res <;> simp only [ite_shortCircuit, Res.verdict.injEq, reduceCtorEq, if_false]

theorem evalOut_logical_res (op : String) (l r : Tree) :
    (evalOut lower item (.logical op l r)).res =
      if (evalOut lower item l).res = .verdict (neutral op) then (evalOut lower item r).res
      else (evalOut lower item l).res := by
  rw [evalOut_logical]; split <;> rfl

theorem reached_paren (neg : Bool) (q : Tree) : reached lower item (.paren neg q) = reached lower item q := rfl

theorem reached_logical (op : String) (l r : Tree) :
    reached lower item (.logical op l r) =
      if (evalOut lower item l).res = .verdict (neutral op) then reached lower item l ++ reached lower item r
      else reached lower item l := by
  simp only [reached]
  cases (evalOut lower item l).res <;> simp only [ite_shortCircuit, Res.verdict.injEq, reduceCtorEq, if_false]

theorem evalOut_leaf (t : Tree) : ∀ x ∈ leaves t, evalOut lower item x = leafOut lower item x := by
  induction t with
  | paren n q ih => exact ih
  | logical op l r ihl ihr => exact fun x hx => (List.mem_append.1 hx).elim (ihl x) (ihr x)
  | _ => intro x hx; cases List.mem_singleton.1 hx; rfl

end

theorem boolOf_congr {f g : Tree → Bool} (t : Tree) (h : ∀ l ∈ leaves t, f l = g l) : boolOf f t = boolOf g t := by
  induction t with
  | paren n q ih => simp only [boolOf, ih h]
  | logical op l r ihl ihr =>
    simp only [boolOf, ihl fun x hx => h x (List.mem_append_left _ hx), ihr fun x hx => h x (List.mem_append_right _ hx)]
  | _ => exact h _ (List.mem_singleton_self _)

theorem toProc_debug (o : Out) : (toProc o).debug = o.dbg := by unfold toProc; split <;> rfl
theorem toProc_calls (o : Out) : (toProc o).calls = o.calls := by unfold toProc; split <;> rfl
theorem toProc_verdict (o : Out) : (toProc o).verdict = verdictOf o := by unfold toProc verdictOf; split <;> simp [*]
theorem toProc_err_eq_none (o : Out) : (toProc o).err = none ↔ isVerdict o.res = true := by
  unfold toProc; cases o.res <;> simp [isVerdict]

end Rules
