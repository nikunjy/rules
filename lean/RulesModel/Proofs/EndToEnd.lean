import RulesModel.Proofs.C05
import RulesModel.Proofs.C06
/-!
`rules.Evaluate` / `NewEvaluator`+`Process` on a rule text is: trim, lex with the token table, parse, and take the
observable of the compositional outcome – or the syntax error when the trimmed text is not a sentence. This composes
`lexParse_eq_some_iff` (recogniser = grammar, with `parse_iff` behind it) and `processTree_eq` (visitor = `evalOut`, inside
`process_of_some`).
-/
namespace Rules
open Rules.P (Tree Kind)

theorem rulesEvaluate_sentence (rules : List (Kind × Regex)) (lower : Bytes → Bytes) (text : List Char) (t : Tree)
    (h : lexParse rules (trimSpace text) = some t) (item : List (Bytes × Value)) :
    rulesEvaluate rules lower text item = toProc (evalOut lower item t) :=
  process_of_some (e := newEvaluator rules text) h lower item

/-- every text, every object: the outcome of `rules.Evaluate`, in one statement (the other two entry points are `C14`) -/
theorem rulesEvaluate_total (rules : List (Kind × Regex)) (lower : Bytes → Bytes) (text : List Char) (item : List (Bytes × Value)) :
    (¬ Sentence rules (trimSpace text) ∧ rulesEvaluate rules lower text item = syntaxOut) ∨
    (∃ ts t, lex rules (trimSpace text) = some ts ∧ P.D false (ts.map toTok) t ∧
        rulesEvaluate rules lower text item = toProc (evalOut lower item t)) := by
  by_cases hs : Sentence rules (trimSpace text)
  · obtain ⟨ts, t, hl, hd⟩ := hs
    exact .inr ⟨ts, t, hl, hd, rulesEvaluate_sentence rules lower text t (lexParse_eq_some_iff.2 ⟨ts, hl, hd⟩) item⟩
  · exact .inl ⟨hs, (C05_only_sentences rules lower text hs item).1⟩

/-- the error a rule text reports (other than the syntax error) is the failure of the first failing comparison that is
reached: no comparison after it is reached -/
theorem first_failure_is_last_reached (lower : Bytes → Bytes) (item : List (Bytes × Value)) (t : Tree) (e : EvalErr)
    (h : (evalOut lower item t).res = .fail e) :
    ∃ pre last, reached lower item t = pre ++ [last] ∧ (leafOut lower item last).res = .fail e ∧
      ∀ l ∈ pre, isVerdict (leafOut lower item l).res = true := by
  obtain ⟨pre, last, h1, h2, h3⟩ := (C06_reached_shape lower item t).2 (by simp [isVerdict, h])
  exact ⟨pre, last, h1, by rw [h3, h], h2⟩

end Rules
