import RulesModel.Proofs.Refine
import RulesModel.Proofs.Outcome
import RulesModel.Proofs.OpsLemmas
/-!
# C06 — Unsupported operators fail loudly iff reached; type mismatch never errors

`unsupportedOp` is the operator-support table of the six `Operation` types (`C06_table_unsupported`,
`C06_table_supported`). A failure (or recovered panic) of the left operand is the outcome of the whole connective –
nothing later can turn it into a verdict or replace the error (`C06_final_logical`, `C06_final_paren`) – so the
evaluation fails with `e` iff a *reached* comparison fails with `e`. All for every rule shape (induction over the tree)
and every object.
-/
namespace Rules
open Rules.P (Tree Lit Kind)

def unsupportedOp : OpKind → CmpOp → Bool
  | .null, op | .bool, op => !(op == .eq || op == .ne)
  | .int, op | .float, op => op == .co || op == .sw || op == .ew
  | .version, op => op == .co || op == .sw || op == .ew || op == .in_
  | .string, _ => false

theorem C06_table_unsupported (lower : Bytes → Bytes) (k : OpKind) (op : CmpOp) (h : unsupportedOp k op = true)
    (left : Value) (right : ROp) : apply lower k op left right = .err .invalidOperation [] := by
  cases k <;> cases op <;> first | rfl | exact absurd h (by decide)

/-- a supported operator never reports "invalid operation", whatever the operands are -/
theorem C06_table_supported (lower : Bytes → Bytes) (k : OpKind) (op : CmpOp) (h : unsupportedOp k op = false)
    (left : Value) (right : ROp) : ∀ c, apply lower k op left right ≠ .err .invalidOperation c := by
  -- per Operation type: what `h` leaves is the relational core of the family, or its `IN` behind a type switch
  cases k with
  | null => cases op <;> first | exact absurd h (by decide) | exact nofun
  | bool =>
    cases op <;> first | exact absurd h (by decide) | skip
    -- `eq`, `ne`: a verdict, "missing" or "invalid operand"
    all_goals intro c; simp only [apply, boolOp]; repeat' split
    all_goals nofun
  | int =>
    cases op with
    | co | sw | ew => exact absurd h (by decide)
    | in_ => cases right <;> first | exact intInLoop_defined left _ | exact nofun
    | _ => exact intRelOp_defined _ left right
  | float =>
    cases op with
    | co | sw | ew => exact absurd h (by decide)
    | in_ =>
      intro c; simp only [apply, floatOp]; repeat' split
      all_goals nofun
    | _ => exact floatRelOp_defined _ left right
  | string =>
    cases op with
    | in_ => cases right <;> first | exact strInLoop_defined lower left _ | exact nofun
    | _ => exact strRelOp_defined lower _ left right
  | version =>
    cases op with
    | co | sw | ew | in_ => exact absurd h (by decide)
    | _ => intro c; simp only [apply]; exact versionOp_defined rfl left right c

/-- **Finality.** Once the left operand has failed (or panicked) the connective has that outcome, whatever follows. -/
theorem C06_final_logical (lower : Bytes → Bytes) (item : List (Bytes × Value)) (op : String) (l r : Tree)
    (h : isVerdict (evalOut lower item l).res = false) :
    evalOut lower item (.logical op l r) = evalOut lower item l := by
  rw [evalOut_logical, if_neg]
  intro hv; simp [hv, isVerdict] at h

theorem C06_final_paren (lower : Bytes → Bytes) (item : List (Bytes × Value)) (neg : Bool) (q : Tree)
    (h : isVerdict (evalOut lower item q).res = false) :
    evalOut lower item (.paren neg q) = evalOut lower item q := by
  rw [evalOut_paren, Out.not_of_not_verdict _ h, ite_self]

/-- all reached comparisons but the last are verdicts, and the last one carries a non-verdict outcome -/
theorem C06_reached_shape (lower : Bytes → Bytes) (item : List (Bytes × Value)) (t : Tree) :
    (isVerdict (evalOut lower item t).res = true → ∀ l ∈ reached lower item t, isVerdict (leafOut lower item l).res = true) ∧
    (isVerdict (evalOut lower item t).res = false → ∃ pre last, reached lower item t = pre ++ [last] ∧
        (∀ l ∈ pre, isVerdict (leafOut lower item l).res = true) ∧
        (leafOut lower item last).res = (evalOut lower item t).res) := by
  induction t with
  | paren neg q ih =>
    rw [reached_paren, evalOut_paren]
    split
    · rw [Out.isVerdict_not]
      exact ⟨ih.1, fun h => by rw [Out.not_of_not_verdict _ h]; exact ih.2 h⟩
    · exact ih
  | logical op l r ihl ihr =>
    rw [evalOut_logical, reached_logical]
    split
    · next hx =>
      -- the left operand is a verdict, so all it reached are verdicts; the right operand's leaves come after them
      have hl := ihl.1 (by simp [hx, isVerdict])
      refine ⟨fun h y hy => (List.mem_append.1 hy).elim (hl y) (ihr.1 h y), fun h => ?_⟩
      obtain ⟨pre, last, h1, h2, h3⟩ := ihr.2 h
      exact ⟨reached lower item l ++ pre, last, by rw [h1, List.append_assoc],
        fun y hy => (List.mem_append.1 hy).elim (hl y) (h2 y), h3⟩
    · exact ihl
  | _ => exact ⟨by simp [reached, evalOut], fun _ => ⟨[], _, rfl, by simp, rfl⟩⟩

/-- **Failure iff reached.** The evaluation fails with `e` exactly when a comparison that is reached under
left-to-right short-circuit evaluation fails with `e`. -/
theorem C06_fail_iff (lower : Bytes → Bytes) (item : List (Bytes × Value)) (t : Tree) (e : EvalErr) :
    (evalOut lower item t).res = .fail e ↔ ∃ l ∈ reached lower item t, (leafOut lower item l).res = .fail e := by
  have hs := C06_reached_shape lower item t
  constructor
  · intro h
    obtain ⟨pre, last, h1, _, h3⟩ := hs.2 (by simp [isVerdict, h])
    exact ⟨last, by simp [h1], by rw [h3, h]⟩
  · rintro ⟨l, hl, hf⟩
    cases hv : isVerdict (evalOut lower item t).res with
    | true =>
      have := hs.1 hv l hl
      simp [isVerdict, hf] at this
    | false =>
      obtain ⟨pre, last, h1, h2, h3⟩ := hs.2 hv
      rw [h1] at hl
      rcases List.mem_append.1 hl with hl | hl
      · have := h2 l hl; simp [isVerdict, hf] at this
      · simp at hl; subst hl; rw [← h3, hf]

/-- the Stringer call log is the concatenation of the logs of the reached comparisons, in order -/
theorem C06_calls (lower : Bytes → Bytes) (item : List (Bytes × Value)) (t : Tree) :
    (evalOut lower item t).calls = (reached lower item t).flatMap (fun l => (leafOut lower item l).calls) := by
  induction t with
  | paren neg q ih => rw [reached_paren, evalOut_paren]; split <;> simp [ih]
  | logical op l r ihl ihr => rw [evalOut_logical, reached_logical]; split <;> simp [ihl, ihr]
  | _ => simp [evalOut, reached]

/-- an operand error that is not "invalid operation" (absent attribute, wrong type or format) is not an
evaluation error: the comparison is false -/
theorem C06_mismatch_no_error (lower : Bytes → Bytes) (item : List (Bytes × Value)) (path : List String) (k : Kind)
    (lit : Lit) (v : Value) (kind : OpKind) (r : ROp) (op : CmpOp) (e : OpErr) (c : List Nat)
    (hd : denote item path = .ok v) (hl : litOperand lit = some (kind, r)) (hk : cmpOfKind k = some op)
    (ha : apply lower kind op v r = .err e c) (he : e ≠ .invalidOperation) :
    (leafOut lower item (.compare path k lit)).res = .verdict false := by
  simp only [leafOut, hd, hl, hk, ha]

/-- an absent attribute compared with a supported operator (other than a null test) is false, never an error -/
theorem C06_absent_false (lower : Bytes → Bytes) (kind : OpKind) (op : CmpOp) (r : ROp)
    (hs : unsupportedOp kind op = false) (hk : kind ≠ .null) :
    (∃ c, apply lower kind op .null r = .ok false c) ∨ (∃ e c, apply lower kind op .null r = .err e c ∧ e ≠ .invalidOperation) := by
  cases kind with
  | null => exact absurd rfl hk
  | bool | float | version =>
    -- a relation reports "missing" (a version "invalid operand": nil is no string), float `IN` "invalid operand"
    cases op <;> first | exact absurd hs (by decide) | exact .inr ⟨_, _, rfl, by decide⟩
  | int | string =>
    cases op with
    | in_ =>
      -- false over an empty list, "missing" from the first `EQ` over another, "invalid operand" for any other operand
      rcases r with _ | _ | _ | _ | _ | (_ | _) | _ | (_ | _) <;>
        first | exact .inl ⟨_, rfl⟩ | exact .inr ⟨_, _, rfl, by decide⟩
    | _ => first | exact absurd hs (by decide) | exact .inr ⟨_, _, rfl, by decide⟩

/-- non-vacuity: `a gt null or b pr` on `{}`: the first comparison is reached and fails, the rest is not consulted -/
example : (evalOut id [] (.logical "or" (.compare ["a"] 15 .null) (.present ["b"]))).res = .fail .invalidOperation := by
  decide +kernel
/-- … while `a eq 1 and b gt null` on `{}` does not reach the unsupported comparison -/
example : (evalOut id [] (.logical "and" (.compare ["a"] 13 (.long false "1" none)) (.compare ["b"] 15 .null))).res
    = .verdict false := by decide +kernel

end Rules
