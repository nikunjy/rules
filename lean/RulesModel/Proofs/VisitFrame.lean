import RulesModel.Model.Visitor
/-! Which registers the path and literal visitors can change: one record equation per visitor. That `item`, `curOp` or
`rightOp` is left alone is read off with `congrArg`. -/
namespace Rules
open Rules.P (Lit)

theorem visitAttrPath_frame (s : VState) (path : List String) :
    ∀ s', visitAttrPath s path = .ok s' → s' = { s with leftOp := s'.leftOp, stack := [] } := by
  fun_induction visitAttrPath s path <;> intro s' h
  case case6 ih => exact ih s' h   -- the one recursive branch: a longer path whose next step is an object
  all_goals cases h
  all_goals rfl

theorem visitSubInts_frame : ∀ (xs : List String) (s s' : VState), visitSubInts s xs = .ok s' →
    s' = { s with rightOp := s'.rightOp, err := s'.err }
  | [], s, s', h => by cases h; rfl
  | t :: rest, s, s', h => by
    simp only [visitSubInts] at h
    split at h
    · split at h
      · cases h; split <;> rfl
      · exact (visitSubInts_frame rest _ s' h).trans (by split <;> rfl)
    · cases h

theorem visitSubFloats_frame : ∀ (xs : List String) (s s' : VState), visitSubFloats s xs = .ok s' →
    s' = { s with rightOp := s'.rightOp, err := s'.err }
  | [], s, s', h => by cases h; rfl
  | t :: rest, s, s', h => by
    simp only [visitSubFloats] at h
    split at h
    · split at h
      · cases h; split <;> rfl
      · exact (visitSubFloats_frame rest _ s' h).trans (by split <;> rfl)
    · cases h

theorem visitSubStrs_frame : ∀ (xs : List String) (s s' : VState), visitSubStrs s xs = .ok s' →
    s' = { s with rightOp := s'.rightOp, err := s'.err }
  | [], s, s', h => by cases h; rfl
  | t :: rest, s, s', h => by
    simp only [visitSubStrs] at h
    split at h
    · exact (visitSubStrs_frame rest _ s' h).trans (by split <;> rfl)
    · cases h

theorem visitLit_frame (s : VState) (lit : Lit) (s' : VState) (h : visitLit s lit = .ok s') :
    s' = { s with curOp := s'.curOp, rightOp := s'.rightOp, err := s'.err } := by
  cases lit with
  | list k xs =>
    simp only [visitLit] at h
    split at h
    · rw [visitSubInts_frame xs _ s' h]
    · split at h
      · rw [visitSubFloats_frame xs _ s' h]
      · rw [visitSubStrs_frame xs _ s' h]
  | _ =>
    simp only [visitLit] at h
    repeat' split at h
    all_goals cases h; rfl

end Rules
