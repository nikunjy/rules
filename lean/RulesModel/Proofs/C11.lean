import RulesModel.Proofs.Refine
/-!
# C11 — A parsed evaluator can be reused: verdicts do not depend on history

The evaluator is the state machine `stepWith` over `{tree, lastDebug}`; `Process` builds a fresh visitor, so the only
state a call can leave behind is `lastDebug`. The theorems are for **every** finite history of
`Process / Reset / LastDebugErr` calls (induction over the list) and every way `pf` of evaluating a tree (so they do not
depend on what the comparisons do).
Parser caches (cold/warm) are outside the model: creation has no shared state in it; that part is correspondence only.
-/
namespace Rules
open Rules.P (Tree Kind)

def runState (pf : Tree → List (Bytes × Value) → ProcOut) (e : Evaluator) : List ApiOp → Evaluator
  | [] => e
  | op :: ops => runState pf (stepWith pf e op).1 ops

/-- the diagnostic the latest `Process` of a history produced (none if the history ends with a `Reset` or has no `Process`) -/
def latestDebug (pf : Tree → List (Bytes × Value) → ProcOut) (e : Evaluator) : List ApiOp → Option Dbg → Option Dbg
  | [], acc => acc
  | .process item :: ops, _ => latestDebug pf e ops (e.processWith pf item).2.debug
  | .reset :: ops, _ => latestDebug pf e ops none
  | .lastDebug :: ops, acc => latestDebug pf e ops acc

theorem processWith_out (pf : Tree → List (Bytes × Value) → ProcOut) (e e' : Evaluator) (h : e.tree = e'.tree)
    (item : List (Bytes × Value)) : (e.processWith pf item).2 = (e'.processWith pf item).2 := by
  unfold Evaluator.processWith
  rw [h]

theorem stepWith_fst (pf : Tree → List (Bytes × Value) → ProcOut) (e : Evaluator) (op : ApiOp) :
    (stepWith pf e op).1 = { e with lastDebug := latestDebug pf e [op] e.lastDebug } := by
  cases op with
  | process item => simp only [stepWith, latestDebug, Evaluator.processWith]; cases e.tree <;> rfl
  | _ => rfl

/-- `e0` stays put so that `latestDebug` speaks of one evaluator while the induction moves along the history -/
theorem runState_eq (pf : Tree → List (Bytes × Value) → ProcOut) (e0 : Evaluator) (d : Option Dbg) (ops : List ApiOp) :
    runState pf { tree := e0.tree, lastDebug := d } ops = { tree := e0.tree, lastDebug := latestDebug pf e0 ops d } := by
  induction ops generalizing d with
  | nil => rfl
  | cons op ops ih =>
    rw [runState, stepWith_fst, ih]
    cases op with
    | process item => simp only [latestDebug, processWith_out pf ⟨e0.tree, d⟩ e0 rfl]
    | _ => rfl

theorem C11_tree_invariant (pf : Tree → List (Bytes × Value) → ProcOut) (e : Evaluator) (ops : List ApiOp) :
    (runState pf e ops).tree = e.tree :=
  -- `e` is `{ tree := e.tree, lastDebug := e.lastDebug }` by eta
  (congrArg Evaluator.tree (runState_eq pf e e.lastDebug ops) :)

/-- **C11.** After any history, `Process` returns exactly what a freshly created evaluator returns. -/
theorem C11_history (pf : Tree → List (Bytes × Value) → ProcOut) (rules : List (Kind × Regex)) (text : List Char)
    (ops : List ApiOp) (item : List (Bytes × Value)) :
    ((runState pf (newEvaluator rules text) ops).processWith pf item).2 =
      ((newEvaluator rules text).processWith pf item).2 :=
  processWith_out pf _ _ (C11_tree_invariant pf _ ops) item

/-- `LastDebugErr` describes only the most recent `Process` call and is nil after `Reset` -/
theorem C11_lastDebug (pf : Tree → List (Bytes × Value) → ProcOut) (rules : List (Kind × Regex)) (text : List Char) (ops : List ApiOp) :
    (runState pf (newEvaluator rules text) ops).lastDebug =
      latestDebug pf (newEvaluator rules text) ops none :=
  (congrArg Evaluator.lastDebug (runState_eq pf (newEvaluator rules text) none ops) :)

theorem C11_after_reset (pf : Tree → List (Bytes × Value) → ProcOut) (e : Evaluator) (ops : List ApiOp) :
    (runState pf e (ops ++ [.reset])).lastDebug = none := by
  induction ops generalizing e with
  | nil => simp [runState, stepWith]
  | cons op ops ih => simp only [List.cons_append, runState]; exact ih _

end Rules
