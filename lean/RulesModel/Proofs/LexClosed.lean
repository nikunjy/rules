import RulesModel.Proofs.LexChar
/-!
Tokens that nothing can extend. After a string literal one character of look-ahead separates nothing (the STRING rule can
continue over any character); what holds is that after a complete literal no rule can match anything longer. Three forms,
each implying the next: `extClosed` (executable: the Brzozowski derivative of every rule by the token's text has no first
character), `SemClosed`, and `ClosedP`, the form the round trip uses. `sepChain2` allows it beside `sepOK`.
-/
namespace Rules
open Rules.Regex

def derivs (r : Regex) : List Char → Regex
  | [] => r
  | c :: cs => derivs (r.deriv c) cs

theorem derivs_iff (r : Regex) (w u : List Char) : Matches (derivs r w) u ↔ Matches r (w ++ u) := by
  induction w generalizing r with
  | nil => simp [derivs]
  | cons c cs ih => simp only [derivs, List.cons_append]; rw [ih, deriv_iff]

/-- after `w`, rule `r` accepts no non-empty continuation (conservative: decided on the first-character set of the derivative) -/
def closedAfter (r : Regex) (w : List Char) : Bool := (firstChars (derivs r w)).isEmpty

theorem closedAfter_sound (r : Regex) (w : List Char) (h : closedAfter r w = true) (u : List Char) (hu : u ≠ []) :
    ¬ Matches r (w ++ u) := by
  intro hm
  obtain ⟨c, t, rfl⟩ := List.exists_cons_of_ne_nil hu
  rw [closedAfter, firstChars_nonempty ((derivs_iff r w _).2 hm)] at h
  cases h

def extClosed (rules : List (Kind × Regex)) (w : List Char) : Bool := rules.all (fun kr => closedAfter kr.2 w)

def SemClosed (rules : List (Kind × Regex)) (w : List Char) : Prop :=
  ∀ kr ∈ rules, ∀ u, u ≠ [] → ¬ Matches kr.2 (w ++ u)

def ClosedP (rules : List (Kind × Regex)) (w : List Char) : Prop :=
  ∀ rest, bestMatch rules (w ++ rest) = bestMatch rules w

theorem semClosed_of_ext (rules : List (Kind × Regex)) (w : List Char) (h : extClosed rules w = true) : SemClosed rules w :=
  fun kr hkr => closedAfter_sound kr.2 w (List.all_eq_true.1 h kr hkr)

theorem closedP_of_sem (rules : List (Kind × Regex)) (w : List Char) (h : SemClosed rules w) : ClosedP rules w :=
  fun rest => bestMatch_append rules w rest fun kr hkr u hu _ => h kr hkr u hu

theorem bestMatch_closed (rules : List (Kind × Regex)) (w rest : List Char) (h : extClosed rules w = true) :
    bestMatch rules (w ++ rest) = bestMatch rules w :=
  closedP_of_sem rules w (semClosed_of_ext rules w h) rest

def sepChain2 (rules : List (Kind × Regex)) : List Token → Bool
  | t :: t' :: rest =>
    ((match t.text, t'.text with
      | d :: _, c :: _ => sepOK rules d.toNat c.toNat
      | _, _ => false) || extClosed rules t.text) && sepChain2 rules (t' :: rest)
  | _ => true

theorem sepChain2_of_sepChain (rules : List (Kind × Regex)) : ∀ ts, sepChain rules ts = true → sepChain2 rules ts = true
  | [] => fun _ => rfl
  | [_] => fun _ => rfl
  | t :: t' :: rest => by
    intro h
    simp only [sepChain, Bool.and_eq_true] at h
    simp only [sepChain2, Bool.and_eq_true, Bool.or_eq_true]
    exact ⟨.inl h.1, sepChain2_of_sepChain rules (t' :: rest) h.2⟩

/-- string literals of the regenerated table are closed: plain, empty, with blanks, with an escaped quote, an escaped
backslash, `\u…` and `\n`, non-ASCII -/
theorem string_literals_closed :
    ["\"abc\"", "\"\"", "\" a b \"", "\"a\\\"\"", "\"\\\\\"", "\"\\u00e9x\"", "\"Straße Ω\"", "\"x\\n\""].all
      (fun s => extClosed Generated.lexerRules s.toList && canonB Generated.lexerRules ⟨24, s.toList⟩) = true := by
  decide +kernel

/-- an instance with string literals and a string list, all side conditions evaluated by the kernel on the regenerated table -/
example :
    let ts := [tk 22 "name", tk 30 " ", tk 13 "eq", tk 30 " ", tk 24 "\"Ann B\"", tk 30 " ", tk 9 "or", tk 30 " ",
               tk 22 "tag", tk 30 " ", tk 12 "in", tk 30 " ", tk 6 "[", tk 24 "\"a\\\"\"", tk 29 ",", tk 24 "\"b\"", tk 7 "]"]
    let ts' := [tk 22 "name", tk 30 " \n", tk 13 "==", tk 30 " ", tk 24 "\"Ann B\"", tk 30 " ", tk 9 "or", tk 30 " ",
               tk 22 "tag", tk 30 " ", tk 12 "IN", tk 30 " ", tk 6 "[", tk 24 "\"a\\\"\"", tk 29 ",   ", tk 24 "\"b\"", tk 7 "]"]
    (ts.all (canonB Generated.lexerRules) && sepChain2 Generated.lexerRules ts &&
     ts'.all (canonB Generated.lexerRules) && sepChain2 Generated.lexerRules ts') = true ∧
    lexParse Generated.lexerRules (ts.flatMap (·.text)) = lexParse Generated.lexerRules (ts'.flatMap (·.text)) := by
  decide +kernel

end Rules
