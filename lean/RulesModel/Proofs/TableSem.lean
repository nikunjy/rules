import RulesModel.Expected.LexTable
import RulesModel.Proofs.VisitFrame
import RulesModel.Proofs.Chars
/-!
The translator (`/verif/extract`) classifies every `Operation` method, the `switch` of `VisitCompareExp` and the literal
visitors into rows of small tables (`Generated.opTable`, `Generated.dispatch`, `Generated.litOps`,
`Generated.tokenConsts`), which the tie modules check against the frozen `Expected.*` tables. Here the row language gets a
semantics in Lean, and the model's functions are proved to be the semantics of the expected rows:

  Go source ──(translator: row `fdel;rel(>=);propagate`)──▶ `Generated.opTable` ══(Tie.OpsNumeric, kernel)══
  `Expected.opTable` ══(`opTable_sem`)══ `apply lower .int .ge`

so that a swapped relation, a dropped delegation, a swallowed error or a re-routed token is a kernel-checked difference and
not a comparison of strings.

`IN` rows are `as-modelled:` rows: their bodies are frozen text (translator `knownBodies`), transcribed by hand; their
semantics here is the model function itself – a definition, not a theorem; that the Go bodies are those functions is
`OpsGen.int_in` / `string_in` / `float_in` when the translation of DESIGN §4.4 stands, and the transcription of §10 otherwise.
-/
namespace Rules.TableSem

inductive RowCode where
  | invalid                                        -- `return false, ErrInvalidOperation`
  | isnil                                          -- `return left == nil, nil`
  | notnil                                         -- `return left != nil, nil`
  | rel (fdel : Bool) (r : CmpOp) (propagate : Bool) -- [float64 → FloatOperation.<same method>;] `l, r, err := o.get(..)`; err returned or dropped; `return l <r> r`
  | modelled                                       -- frozen body transcribed by hand
  | unrecognised
  deriving DecidableEq, Repr

def relOfName (s : List Char) : Option CmpOp :=
  if s = "==".toList then some .eq else if s = "!=".toList then some .ne
  else if s = ">".toList then some .gt else if s = "<".toList then some .lt
  else if s = ">=".toList then some .ge else if s = "<=".toList then some .le
  else if s = "Contains".toList then some .co else if s = "HasPrefix".toList then some .sw
  else if s = "HasSuffix".toList then some .ew
  else if s = "semver.EQ".toList then some .eq else if s = "semver.NE".toList then some .ne
  else if s = "semver.GT".toList then some .gt else if s = "semver.LT".toList then some .lt
  else if s = "semver.GE".toList then some .ge else if s = "semver.LE".toList then some .le
  else none

def splitSemi : List Char → List (List Char)
  | [] => [[]]
  | c :: cs =>
    match splitSemi cs with
    | [] => [[c]]
    | p :: ps => if c = ';' then [] :: p :: ps else (c :: p) :: ps

/-- `rel(X)` ↦ X -/
def relArg (p : List Char) : Option (List Char) :=
  match p with
  | 'r' :: 'e' :: 'l' :: '(' :: rest => if rest.getLast? = some ')' then some rest.dropLast else none
  | _ => none

def modeOf (p : List Char) : Option Bool :=
  if p = "propagate".toList then some true else if p = "swallow".toList then some false else none

def parseClass (cls : List Char) : RowCode :=
  if cls = "invalid".toList then .invalid
  else if cls = "isnil".toList then .isnil
  else if cls = "notnil".toList then .notnil
  else if "as-modelled:".toList.isPrefixOf cls then .modelled
  else
    match splitSemi cls with
    | [a, b] =>
      match (relArg a).bind relOfName, modeOf b with
      | some r, some m => .rel false r m
      | _, _ => .unrecognised
    | [f, a, b] =>
      if f = "fdel".toList then
        match (relArg a).bind relOfName, modeOf b with
        | some r, some m => .rel true r m
        | _, _ => .unrecognised
      else .unrecognised
    | _ => .unrecognised

def typeName : OpKind → String
  | .null => "NullOperation" | .bool => "BoolOperation" | .int => "IntOperation"
  | .float => "FloatOperation" | .string => "StringOperation" | .version => "VersionOperation"

def methodName : CmpOp → String
  | .eq => "EQ" | .ne => "NE" | .gt => "GT" | .lt => "LT" | .ge => "GE" | .le => "LE"
  | .co => "CO" | .sw => "SW" | .ew => "EW" | .in_ => "IN"

def lookupC (key : List Char) : List (String × String) → Option (List Char)
  | [] => none
  | (k, v) :: rest => if k.toList = key then some v.toList else lookupC key rest

theorem lookupC_eq (key : List Char) : ∀ t, lookupC key t = (t.map fun p => (chars p.1, chars p.2)).lookup key
  | [] => rfl
  | (k, v) :: rest => by
    rw [lookupC, List.map_cons, List.lookup_cons, ← lookupC_eq key rest, toList_eq_chars, toList_eq_chars]
    by_cases h : chars k = key
    · rw [if_pos h, h, beq_self_eq_true]
    · rw [if_neg h, beq_false_of_ne (Ne.symm h)]

/-- the row of `Type.Method`, following one `inherit:` step (Go method promotion from the embedded type) -/
def resolve (table : List (String × String)) (k : OpKind) (m : CmpOp) : RowCode :=
  match lookupC ((typeName k).toList ++ '.' :: (methodName m).toList) table with
  | none => .unrecognised
  | some cls =>
    if "inherit:".toList.isPrefixOf cls then
      match lookupC (cls.drop 8 ++ '.' :: (methodName m).toList) table with
      | none => .unrecognised
      | some c2 => parseClass c2
    else parseClass cls

/-- `IntOperation.get` followed by a relation (no float64 delegation) -/
def intGetRel (r : CmpOp) (left : Value) (right : ROp) : OpRes :=
  match left with
  | .null => .err .missing []
  | _ =>
    match toIntL left with
    | none => .err .invalidOperand []
    | some l =>
      match toIntR right with
      | none => .err .invalidOperand []
      | some rv => .ok (intRel r l rv) []

/-- `BoolOperation.get` followed by `==` / `!=` -/
def boolGetRel (r : CmpOp) (left : Value) (right : ROp) : OpRes :=
  match left with
  | .null => .err .missing []
  | .bool l =>
    match right with
    | .bool rv => .ok (if r = .eq then l == rv else l != rv) []
    | _ => .err .invalidOperand []
  | _ => .err .invalidOperand []

/-- `VersionOperation.get` followed by a comparison method of the parsed versions -/
def verGetRel (r : CmpOp) (left : Value) (right : ROp) : OpRes :=
  match left with
  | .str l =>
    match getStringR right with
    | none => .err .invalidOperand []
    | some rv =>
      match Sv.parse (natBytes l) with
      | none => .err .other []
      | some lv =>
        match Sv.parse (natBytes rv) with
        | none => .err .other []
        | some rv' => .ok (verRel r (lv.cmp rv')) []
  | _ => .err .invalidOperand []

/-- the `get` of the family followed by relation `r` -/
def famRel (lower : Bytes → Bytes) (k : OpKind) (r : CmpOp) (l : Value) (rt : ROp) : OpRes :=
  match k with
  | .null => .err .invalidOperation []
  | .bool => boolGetRel r l rt
  | .int => intGetRel r l rt
  | .float => floatRelOp r l rt
  | .string => strRelOp lower r l rt
  | .version => verGetRel r l rt

def swallow : OpRes → OpRes
  | .err _ c => .ok false c
  | x => x

/-- meaning of a row for method `m` of Operation type `k` -/
def codeSem (lower : Bytes → Bytes) (k : OpKind) (m : CmpOp) (c : RowCode) (l : Value) (rt : ROp) : Option OpRes :=
  match c with
  | .invalid => some (.err .invalidOperation [])
  | .isnil => some (.ok l.isNull [])
  | .notnil => some (.ok (!l.isNull) [])
  | .rel fdel r prop =>
    let base := famRel lower k r l rt
    let res := if prop then base else swallow base
    some (if fdel then (match l with | .float _ => floatRelOp m l rt | _ => res) else res)
  | .modelled => some (apply lower k m l rt)       -- frozen text, transcribed by hand (definition, not theorem)
  | .unrecognised => none

/-- the codes the model was written from -/
def expectedCode : OpKind → CmpOp → RowCode
  | .null, .eq => .isnil
  | .null, .ne => .notnil
  | .null, _ => .invalid
  | .bool, .eq => .rel false .eq true
  | .bool, .ne => .rel false .ne true
  | .bool, _ => .invalid
  | .int, .in_ => .modelled
  | .int, .co => .invalid | .int, .sw => .invalid | .int, .ew => .invalid
  | .int, m => .rel true m true
  | .float, .in_ => .modelled
  | .float, .co => .invalid | .float, .sw => .invalid | .float, .ew => .invalid
  | .float, m => .rel false m true
  | .string, .in_ => .modelled
  | .string, m => .rel false m true
  | .version, .co => .invalid | .version, .sw => .invalid | .version, .ew => .invalid | .version, .in_ => .invalid
  | .version, m => .rel false m true

def allKinds : List OpKind := [.null, .bool, .int, .float, .string, .version]
def allOps : List CmpOp := [.eq, .ne, .gt, .lt, .ge, .le, .co, .sw, .ew, .in_]

theorem allKinds_mem (k : OpKind) : k ∈ allKinds := by cases k <;> simp [allKinds]
theorem allOps_mem (m : CmpOp) : m ∈ allOps := by cases m <;> simp [allOps]

theorem expected_resolves (k : OpKind) (m : CmpOp) : resolve Expected.opTable k m = expectedCode k m := by
  have h : (allKinds.all fun k => allOps.all fun m => decide (resolve Expected.opTable k m = expectedCode k m)) = true := by
    -- every string of the table and of the row language through `chars`
    simp only [resolve, parseClass, modeOf, lookupC_eq, toList_eq_chars]
    decide +kernel
  exact of_decide_eq_true (List.all_eq_true.1 (List.all_eq_true.1 h k (allKinds_mem k)) m (allOps_mem m))

theorem intRelOp_eq (m : CmpOp) (l : Value) (rt : ROp) :
    intRelOp m l rt = (match l with | .float _ => floatRelOp m l rt | _ => intGetRel m l rt) := by
  cases l <;> rfl

theorem expectedCode_sem (lower : Bytes → Bytes) (k : OpKind) (m : CmpOp) (l : Value) (rt : ROp) :
    codeSem lower k m (expectedCode k m) l rt = some (apply lower k m l rt) := by
  cases k with
  | null => cases m <;> rfl
  | bool => cases m <;> first | rfl | (cases l <;> first | rfl | (cases rt <;> rfl))
  | int => cases m <;> first | rfl | exact congrArg some (intRelOp_eq _ l rt).symm
  | float => cases m <;> rfl
  | string => cases m <;> rfl
  | version => cases m <;> first | rfl | (cases l <;> rfl)

/-- **The model is the meaning of the table.** For every Operation type `k`, method `m` and operands, the semantics of
the row `k.m` of the frozen table (after Go's method promotion) is what the model's `apply` computes. -/
theorem opTable_sem (lower : Bytes → Bytes) (k : OpKind) (m : CmpOp) (l : Value) (rt : ROp) :
    codeSem lower k m (resolve Expected.opTable k m) l rt = some (apply lower k m l rt) := by
  rw [expected_resolves]; exact expectedCode_sem lower k m l rt

/-- non-vacuity: no row of the frozen table is unrecognised -/
theorem expected_all_recognised (k : OpKind) (m : CmpOp) : resolve Expected.opTable k m ≠ .unrecognised := by
  rw [expected_resolves]; cases k <;> cases m <;> decide

/-- the per-family ties in semantic form; a row the translator does not recognise is accepted (nothing claimed: the
correspondence alone carries it) -/
def codesOK (t : List (String × String)) (ks : List OpKind) : Bool :=
  ks.all fun k => allOps.all fun m => decide (resolve t k m = .unrecognised ∨ resolve t k m = expectedCode k m)

/-- A recognised row of such a table means what the model computes. With `t := Generated.opTable` (the tie modules prove
`codesOK Generated.opTable …` on every run): the Go method, as read by the translator on this run, is the model's function. -/
theorem codesOK_sem (t : List (String × String)) (ks : List OpKind) (h : codesOK t ks = true) (k : OpKind) (hk : k ∈ ks)
    (m : CmpOp) (hr : resolve t k m ≠ .unrecognised) (lower : Bytes → Bytes) (l : Value) (rt : ROp) :
    codeSem lower k m (resolve t k m) l rt = some (apply lower k m l rt) := by
  have h1 := List.all_eq_true.1 h k hk
  have h2 := of_decide_eq_true (List.all_eq_true.1 h1 m (allOps_mem m))
  rcases h2 with h2 | h2
  · exact absurd h2 hr
  · rw [h2]; exact expectedCode_sem lower k m l rt

def cmpOfMethod (s : String) : Option CmpOp :=
  [CmpOp.eq, .ne, .gt, .lt, .ge, .le, .co, .sw, .ew, .in_].find? (fun m => methodName m == s)

def digitsAux : List Char → Nat → Option Nat
  | [], acc => some acc
  | c :: cs, acc => if '0' ≤ c ∧ c ≤ '9' then digitsAux cs (acc * 10 + (c.toNat - 48)) else none

def natOfDigits (s : String) : Option Nat :=
  match s.toList with
  | [] => none
  | cs => digitsAux cs 0

/-- token constant name ↦ number, as in the generated parser -/
def constOf (consts : List (String × String)) (name : String) : Option Nat :=
  match consts.find? (fun p => p.1 == name) with
  | some p => natOfDigits p.2
  | none => none

/-- the method a token kind is routed to, according to the dispatch table and the token constants -/
def dispatchSem (dispatch consts : List (String × String)) (kind : Nat) : Option CmpOp :=
  match dispatch.find? (fun row => constOf consts row.1 == some kind) with
  | some row => cmpOfMethod row.2
  | none => none

/-- **Dispatch.** The `switch` of `VisitCompareExp`, read through the generated parser's token constants, routes a
token kind to exactly the method `cmpOfKind` names – for every kind (any other kind has no case: "Unknown operation"). -/
theorem dispatch_sem (kind : Nat) : dispatchSem Expected.dispatch Expected.tokenConsts kind = cmpOfKind kind := by
  -- the token constants of the switch are all ≤ 31: one evaluation up to there, and beyond it neither side has a case
  by_cases h : kind ≤ 31
  · exact (by decide +kernel : ∀ k, k ≤ 31 → dispatchSem Expected.dispatch Expected.tokenConsts k = cmpOfKind k) kind h
  · have hk : cmpOfKind kind = none := by
      have e (n : Nat) : n ≤ 31 → ¬ kind = n := fun hn e => h (e ▸ hn)
      simp +decide [cmpOfKind, e]
    have hall : ∀ row ∈ Expected.dispatch, ∀ n, constOf Expected.tokenConsts row.1 = some n → n ≤ 31 := by decide +kernel
    rw [hk, dispatchSem]
    split
    · rename_i row hf
      exact absurd (hall row (List.mem_of_find?_eq_some hf) kind (by simpa using List.find?_some hf)) h
    · rfl

def kindOfTypeName (s : String) : Option OpKind :=
  [OpKind.null, .bool, .int, .float, .string, .version].find? (fun k => typeName k == s)

/-- the Operation type a literal visitor assigns to `currentOperation` -/
def litOpSem (litOps : List (String × String)) (visitor : String) : Option OpKind :=
  match litOps.find? (fun p => p.1 == visitor) with
  | some p => kindOfTypeName p.2
  | none => none

/-- which generated visitor method handles a literal of the grammar model -/
def visitorOf : P.Lit → String
  | .bool _ => "VisitBoolean" | .null => "VisitNull" | .version _ => "VisitVersion" | .str _ => "VisitString"
  | .double _ => "VisitDouble" | .long .. => "VisitLong"
  | .list k _ => if k = P.INT then "VisitListOfInts" else if k = P.DOUBLE then "VisitListOfDoubles" else "VisitListOfStrings"

theorem litOps_rows :
    litOpSem Expected.litOps "VisitBoolean" = some .bool ∧ litOpSem Expected.litOps "VisitNull" = some .null ∧
    litOpSem Expected.litOps "VisitVersion" = some .version ∧ litOpSem Expected.litOps "VisitString" = some .string ∧
    litOpSem Expected.litOps "VisitDouble" = some .float ∧ litOpSem Expected.litOps "VisitLong" = some .int ∧
    litOpSem Expected.litOps "VisitListOfInts" = some .int ∧ litOpSem Expected.litOps "VisitListOfDoubles" = some .float ∧
    litOpSem Expected.litOps "VisitListOfStrings" = some .string := by decide +kernel

/-- **Literal visitors.** Whenever the model's literal visitor succeeds, the Operation type it leaves in
`currentOperation` is the one the source assigns in the visitor method for that literal. -/
theorem litOps_sem (s : VState) (lit : P.Lit) (s' : VState) (h : visitLit s lit = .ok s') :
    s'.curOp = litOpSem Expected.litOps (visitorOf lit) := by
  obtain ⟨hb, hn, hv, hs, hd, hl, his, hds, hss⟩ := litOps_rows
  cases lit with
  | bool t =>
    simp only [visitLit] at h
    split at h
    · cases h; exact hb.symm
    · split at h <;> (cases h; exact hb.symm)
  | null => cases h; exact hn.symm
  | version t => cases h; exact hv.symm
  | str t => cases h; exact hs.symm
  | double t => simp only [visitLit] at h; split at h <;> (cases h; exact hd.symm)
  | long neg i e => simp only [visitLit] at h; split at h <;> (cases h; exact hl.symm)
  | list k xs =>
    simp only [visitLit, visitorOf] at h ⊢
    split at h
    · rename_i hk; rw [congrArg VState.curOp (visitSubInts_frame _ _ _ h), if_pos hk, his]
    · rename_i hk; split at h
      · rename_i hk2; rw [congrArg VState.curOp (visitSubFloats_frame _ _ _ h), if_neg hk, if_pos hk2, hds]
      · rename_i hk2; rw [congrArg VState.curOp (visitSubStrs_frame _ _ _ h), if_neg hk, if_neg hk2, hss]

/-- **Token constants.** The numbers of the generated parser's token constants are the kinds of the grammar model. -/
theorem tokenConsts_sem :
    constOf Expected.tokenConsts "T__0" = some P.LP ∧ constOf Expected.tokenConsts "T__1" = some P.RP ∧
    constOf Expected.tokenConsts "T__2" = some P.PR ∧ constOf Expected.tokenConsts "T__3" = some P.DOT ∧
    constOf Expected.tokenConsts "T__4" = some P.MINUS ∧ constOf Expected.tokenConsts "T__5" = some P.LB ∧
    constOf Expected.tokenConsts "T__6" = some P.RB ∧ constOf Expected.tokenConsts "NOT" = some P.NOT ∧
    constOf Expected.tokenConsts "LOGICAL_OPERATOR" = some P.LOGOP ∧ constOf Expected.tokenConsts "BOOLEAN" = some P.BOOLEAN ∧
    constOf Expected.tokenConsts "NULL" = some P.NULL ∧ constOf Expected.tokenConsts "ATTRNAME" = some P.ATTR ∧
    constOf Expected.tokenConsts "VERSION" = some P.VERSION ∧ constOf Expected.tokenConsts "STRING" = some P.STRING ∧
    constOf Expected.tokenConsts "DOUBLE" = some P.DOUBLE ∧ constOf Expected.tokenConsts "INT" = some P.INT ∧
    constOf Expected.tokenConsts "EXP" = some P.EXP ∧ constOf Expected.tokenConsts "COMMA" = some P.COMMA ∧
    constOf Expected.tokenConsts "SP" = some P.SP ∧
    (∀ m : CmpOp, ∃ n, constOf Expected.tokenConsts (methodName m) = some n ∧ P.isCmp n = true ∧ cmpOfKind n = some m) := by
  -- the last conjunct, with `n` read off the table, is one evaluation over the ten methods; it is rewritten to `True`,
  -- and what is left is one evaluation over the names
  have ops (m : CmpOp) : ∃ n, constOf Expected.tokenConsts (methodName m) = some n ∧ P.isCmp n = true ∧ cmpOfKind n = some m := by
    have h : (allOps.all fun m => (constOf Expected.tokenConsts (methodName m)).any fun n =>
        P.isCmp n && cmpOfKind n == some m) = true := by decide +kernel
    obtain ⟨n, hn, h2⟩ := (Option.any_eq_true _ _).1 (List.all_eq_true.1 h m (allOps_mem m))
    exact ⟨n, hn, by simpa using h2⟩
  simp only [ops, implies_true, and_true]
  decide +kernel

end Rules.TableSem
