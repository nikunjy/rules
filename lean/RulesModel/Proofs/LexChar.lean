import RulesModel.Proofs.C20
import RulesModel.Proofs.C05
import RulesModel.Proofs.C15
import RulesModel.Model.LexSep
/-!
Character-level round trip, any token table. A token is *canonical* (`Canon`) when it is the maximal-munch choice with
nothing after it, and it stays that choice whenever `bestMatch` is blind to what follows (`Canon.takes`); every round-trip
theorem has that shape. Here the condition on neighbours is `sepChain`: the next character cuts off, or cannot continue,
every rule that could start like this token (`bestMatch_sep`).
-/
namespace Rules
open Rules.Regex

def Canon (rules : List (Kind × Regex)) (t : Token) : Prop :=
  t.text ≠ [] ∧ ∃ i, ∃ hi : i < rules.length, (rules[i]).1 = t.kind ∧ Matches (rules[i]).2 t.text ∧
    ∀ j, ∀ hj : j < rules.length, j < i → ¬ Matches (rules[j]).2 t.text

def canonB (rules : List (Kind × Regex)) (t : Token) : Bool :=
  !t.text.isEmpty &&
  (match rules.findIdx? (fun kr => kr.2.matchesB t.text) with
   | some i => (rules[i]?).map (·.1) == some t.kind
   | none => false)

theorem canonB_iff (rules : List (Kind × Regex)) (t : Token) : canonB rules t = true ↔ Canon rules t := by
  unfold canonB Canon
  rw [Bool.and_eq_true, Bool.not_eq_true', List.isEmpty_eq_false_iff]
  refine and_congr_right fun _ => ⟨fun h => ?_, fun ⟨i, hi, hk, hm, hfirst⟩ => ?_⟩
  · split at h
    · rename_i i hf
      obtain ⟨hlt, hm, hfirst⟩ := List.findIdx?_eq_some_iff_getElem.1 hf
      exact ⟨i, hlt, by simpa [List.getElem?_eq_getElem hlt] using h, (matchesB_iff _ _).1 hm,
        fun j hj hji hm' => by simpa [(matchesB_iff _ _).2 hm'] using hfirst j hji⟩
    · cases h
  · have hf : rules.findIdx? (fun kr => kr.2.matchesB t.text) = some i :=
      List.findIdx?_eq_some_iff_getElem.2 ⟨hi, (matchesB_iff _ _).2 hm, fun j hji => by
        simpa [matchesB_iff] using hfirst j (Nat.lt_trans hji hi) hji⟩
    simp [hf, List.getElem?_eq_getElem hi, hk]

theorem canon_of_canonB (rules : List (Kind × Regex)) (t : Token) (h : canonB rules t = true) : Canon rules t :=
  (canonB_iff rules t).1 h

theorem canon_bestMatch (rules : List (Kind × Regex)) (t : Token) (h : Canon rules t) :
    bestMatch rules t.text = some (t.kind, t.text.length) := by
  obtain ⟨hne, i, hi, e1, e2, e3⟩ := h
  rw [← e1]
  exact bestMatch_full rules t.text hne i hi e2 e3

theorem Takes.canon {rules : List (Kind × Regex)} {t : Token} {rest : List Char} (h : Takes rules t rest) : Canon rules t := by
  obtain ⟨i, hi, e1, e2, e3⟩ := C20_priority rules _ _ _ h.2
  rw [List.take_left' rfl] at e2 e3
  exact ⟨h.1, i, hi, e1, e2, e3⟩

theorem Canon.takes {rules : List (Kind × Regex)} {t : Token} {rest : List Char} (h : Canon rules t)
    (e : bestMatch rules (t.text ++ rest) = bestMatch rules t.text) : Takes rules t rest :=
  ⟨h.1, e.trans (canon_bestMatch rules t h)⟩

theorem Canon.rule {rules : List (Kind × Regex)} {x : Token} (h : Canon rules x) :
    ∃ kr ∈ rules, kr.1 = x.kind ∧ Matches kr.2 x.text :=
  let ⟨_, _, hi, e1, e2, _⟩ := h
  ⟨_, List.getElem_mem hi, e1, e2⟩

theorem Canon.kind_mem {rules : List (Kind × Regex)} {x : Token} (h : Canon rules x) : x.kind ∈ rules.map (·.1) :=
  let ⟨kr, hkr, e, _⟩ := h.rule
  List.mem_map.2 ⟨kr, hkr, e⟩

theorem lexParse_of_takesAll {rules : List (Kind × Regex)} {ts : List Token} {tree : P.Tree}
    (h : TakesAll rules ts) (hd : P.D false (ts.map toTok) tree) : lexParse rules (ts.flatMap (·.text)) = some tree :=
  lexParse_eq_some_iff.2 ⟨ts, lex_eq_some_iff.2 ⟨rfl, h⟩, hd⟩

/-- the shape of every character-level respelling theorem: two token lists that round-trip, derive trees and differ only
in the spellings the grammar leaves free are read back from their *texts* as the same tree -/
theorem C15_of_round_trip {rules : List (Kind × Regex)} {ts ts' : List Token} {t t' : P.Tree}
    (hd : P.D false (ts.map toTok) t) (hd' : P.D false (ts'.map toTok) t')
    (hn : (ts.map toTok).map P.norm = (ts'.map toTok).map P.norm)
    (h : lexParse rules (ts.flatMap (·.text)) = some t) (h' : lexParse rules (ts'.flatMap (·.text)) = some t') :
    lexParse rules (ts.flatMap (·.text)) = lexParse rules (ts'.flatMap (·.text)) ∧
    lexParse rules (ts.flatMap (·.text)) = some t := by
  cases P.C15_texts_irrelevant hd hd' hn
  exact ⟨h.trans h'.symm, h⟩

def sepChain (rules : List (Kind × Regex)) : List Token → Bool
  | t :: t' :: rest =>
    (match t.text, t'.text with
     | d :: _, c :: _ => sepOK rules d.toNat c.toNat
     | _, _ => false) && sepChain rules (t' :: rest)
  | _ => true

theorem lex_concat (rules : List (Kind × Regex)) : ∀ (ts : List Token),
    (∀ (pre post : List Token) (t : Token), ts = pre ++ t :: post →
      t.text ≠ [] ∧ bestMatch rules (t.text ++ (post.flatMap (·.text))) = some (t.kind, t.text.length)) →
    lex rules (ts.flatMap (·.text)) = some ts := by
  intro ts h
  refine lex_eq_some_iff.2 ⟨rfl, ?_⟩
  induction ts with
  | nil => trivial
  | cons t post ih => exact ⟨h [] post t rfl, ih fun pre post' t' e => h (t :: pre) post' t' (by simp [e])⟩

end Rules

namespace Rules

def asciiLetters : List Nat := (List.range 26).map (· + 97) ++ (List.range 26).map (· + 65)
def asciiDigits : List Nat := (List.range 10).map (· + 48)

def sepAll (ds cs : List Nat) : Bool := ds.all fun d => cs.all fun c => sepOK Generated.lexerRules d c

/-- names, keywords and `pr` are cut off by a blank, a dot and parentheses; numbers by blank, `)`, `,`, `]`; a blank by
letters, digits, `(`, `-`, `"`, `[`, the symbolic operators and another blank; punctuation and symbolic operators by what
follows them. Not listed, e.g.: a string literal before anything, `-` before an integer, an integer before an exponent, a
blank before `)`. -/
theorem C15_sep_table :
    sepAll asciiLetters [32, 46, 40, 41] = true ∧
    sepAll asciiDigits [32, 41, 44, 93] = true ∧
    sepAll [32] (asciiLetters ++ asciiDigits ++ [40, 32, 45, 34, 91, 61, 33, 60, 62]) = true ∧
    sepAll [40] (asciiLetters ++ [32, 40]) = true ∧ sepAll [41] [32, 41] = true ∧
    sepAll [91] (asciiDigits ++ [34]) = true ∧ sepAll [93] [32, 41] = true ∧
    sepAll [44] (asciiDigits ++ [34]) = true ∧ sepAll [46] asciiLetters = true ∧
    sepAll [61, 33, 60, 62] [32] = true := by
  simp only [sepAll, all_sepOK]
  decide +kernel

def tk (k : Kind) (s : String) : Token := ⟨k, s.toList⟩

/-- the hypotheses and the conclusion of `C15_char_level` on `order eq 1 and not (x.y IN [1,2])` and a respelling of it,
both evaluated by the kernel on the regenerated table -/
example :
    let ts := [tk 22 "order", tk 30 " ", tk 13 "eq", tk 30 " ", tk 26 "1", tk 30 " ", tk 9 "and", tk 30 " ", tk 8 "not", tk 30 " ",
               tk 1 "(", tk 22 "x", tk 4 ".", tk 22 "y", tk 30 " ", tk 12 "IN", tk 30 " ", tk 6 "[", tk 26 "1", tk 29 ",", tk 26 "2", tk 7 "]", tk 2 ")"]
    let ts' := [tk 22 "order", tk 30 " \n", tk 13 "==", tk 30 " ", tk 26 "1", tk 30 " ", tk 9 "and", tk 30 " \n\n", tk 8 "NOT",
               tk 1 "(", tk 30 " ", tk 22 "x", tk 4 ".", tk 22 "y", tk 30 " ", tk 12 "in", tk 30 " ", tk 6 "[", tk 26 "1", tk 29 ",  ", tk 26 "2", tk 7 "]", tk 30 " ", tk 2 ")"]
    (ts.all (canonB Generated.lexerRules) && sepChain Generated.lexerRules ts &&
     ts'.all (canonB Generated.lexerRules) && sepChain Generated.lexerRules ts') = true ∧
    lexParse Generated.lexerRules (ts.flatMap (·.text)) = lexParse Generated.lexerRules (ts'.flatMap (·.text)) := by
  decide +kernel

end Rules
