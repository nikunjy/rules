import RulesModel.Proofs.Outcome
/-!
The refinement theorem (DESIGN-round0 §3.9): from every clean state (empty path stack, rule operand nil, no sticky
error; left operand, current operation, diagnostic and call log arbitrary) visiting a rule yields `evalOut` of that rule
and, unless it failed, leaves a clean state again. Induction over the tree: any depth, any mix, any path length.
-/
namespace Rules
open Rules.P (Tree Lit Kind INT DOUBLE STRING)

theorem visitAttrPath_top (s : VState) (k : String) (ks : List String) :
    visitAttrPath s (k :: ks) =
      match denoteV (s.stack.headD (.obj s.item)) (k :: ks) with
      | .ok v => .ok { s with leftOp := v, stack := [] }
      | .error p => .error ⟨p, s.calls, s.debugErr⟩ := by
  induction ks generalizing s k with
  | nil =>
    rw [visitAttrPath]
    rcases s.stack with _ | ⟨top, _⟩
    · rfl
    · cases top <;> rfl
  | cons k' ks ih =>
    rw [visitAttrPath]
    rcases s.stack with _ | ⟨top, _⟩
    · exact ih ..
    · cases top with
      | obj kvs => exact ih ..
      | _ => rfl

theorem visitAttrPath_spec (s : VState) (hs : s.stack = []) (path : List String) :
    visitAttrPath s path =
      match denote s.item path with
      | .ok v => .ok { s with leftOp := v, stack := [] }
      | .error p => .error ⟨p, s.calls, s.debugErr⟩ := by
  cases path with
  | nil => rfl
  | cons k ks => rw [visitAttrPath_top, hs]; rfl

/-- a literal visitor failed: only the sticky error changed among what is observable -/
def FailedLit (s s' : VState) : Prop :=
  s'.err = some .badLiteral ∧ s'.debugErr = s.debugErr ∧ s'.calls = s.calls

theorem visitSubInts_acc (xs : List String) : ∀ (s : VState) (acc : List Int), s.rightOp = .ints acc →
    match mapOpt (fun t => parseIntLit false t none) xs with
    | some vs => visitSubInts s xs = .ok { s with rightOp := .ints (acc ++ vs) }
    | none => ∃ s', visitSubInts s xs = .ok s' ∧ FailedLit s s' := by
  induction xs with
  | nil => intro s acc h; simp only [mapOpt, visitSubInts, List.append_nil, ← h]
  | cons t rest ih =>
    intro s acc h
    simp only [mapOpt, visitSubInts, h]
    cases parseIntLit false t none with
    | none => exact ⟨_, rfl, rfl, rfl, rfl⟩
    | some v =>
      have := ih { s with rightOp := .ints (acc ++ [v]) } (acc ++ [v]) rfl
      revert this
      -- `FailedLit` does not look at the register that changed
      cases mapOpt (fun t => parseIntLit false t none) rest with
      | none => exact id
      | some vs => simp [List.append_assoc]

theorem visitSubFloats_acc (xs : List String) : ∀ (s : VState) (acc : List F64), s.rightOp = .floats acc →
    match mapOpt parseFloatLit xs with
    | some vs => visitSubFloats s xs = .ok { s with rightOp := .floats (acc ++ vs) }
    | none => ∃ s', visitSubFloats s xs = .ok s' ∧ FailedLit s s' := by
  induction xs with
  | nil => intro s acc h; simp only [mapOpt, visitSubFloats, List.append_nil, ← h]
  | cons t rest ih =>
    intro s acc h
    simp only [mapOpt, visitSubFloats, h]
    cases parseFloatLit t with
    | none => exact ⟨_, rfl, rfl, rfl, rfl⟩
    | some v =>
      have := ih { s with rightOp := .floats (acc ++ [v]) } (acc ++ [v]) rfl
      revert this
      cases mapOpt parseFloatLit rest with
      | none => exact id
      | some vs => simp [List.append_assoc]

theorem visitSubStrs_acc (xs : List String) : ∀ (s : VState) (acc : List Bytes), s.rightOp = .strs acc →
    visitSubStrs s xs = .ok { s with rightOp := .strs (acc ++ xs.map getStringLit) } := by
  induction xs with
  | nil => intro s acc h; simp only [visitSubStrs, List.map_nil, List.append_nil, ← h]
  | cons t rest ih =>
    intro s acc h
    simp [visitSubStrs, h, ih { s with rightOp := .strs (acc ++ [getStringLit t]) } _ rfl]

theorem visitLit_spec (s : VState) (h : s.rightOp = .nil) (lit : Lit) :
    match litOperand lit with
    | some (k, r) => visitLit s lit = .ok { s with curOp := some k, rightOp := r }
    | none => ∃ s', visitLit s lit = .ok s' ∧ FailedLit s s' := by
  cases lit with
  | bool t =>
    simp only [litOperand, visitLit]
    by_cases h1 : t = "true" <;> by_cases h2 : t = "false" <;> simp [h1, h2, FailedLit]
  | null => simp [litOperand, visitLit]
  | version t => simp [litOperand, visitLit]
  | str t => simp [litOperand, visitLit]
  | double t =>
    simp only [litOperand, visitLit]
    cases parseFloatLit t <;> simp
  | long neg i e =>
    simp only [litOperand, visitLit]
    cases parseIntLit neg i e <;> simp [FailedLit]
  | list k xs =>
    simp only [litOperand, visitLit]
    -- an empty list leaves the register nil; the first element of another finds it nil and goes on as from the empty
    -- slice (one step of the loop is unfolded on both sides)
    by_cases hi : k = INT
    · simp only [hi, if_true]
      cases xs with
      | nil => simp [visitSubInts, h]
      | cons t rest =>
        have := visitSubInts_acc (t :: rest) { s with curOp := some .int, rightOp := .ints [] } [] rfl
        revert this
        simp only [visitSubInts, h]
        cases mapOpt _ (t :: rest) with
        | none => exact id
        | some vs => simp
    · simp only [hi, if_false]
      by_cases hd : k = DOUBLE
      · simp only [hd, if_true]
        cases xs with
        | nil => simp [visitSubFloats, h]
        | cons t rest =>
          have := visitSubFloats_acc (t :: rest) { s with curOp := some .float, rightOp := .floats [] } [] rfl
          revert this
          simp only [visitSubFloats, h]
          cases mapOpt _ (t :: rest) with
          | none => exact id
          | some vs => simp
      · simp only [hd, if_false]
        cases xs with
        | nil => simp [visitSubStrs, h]
        | cons t rest =>
          have := visitSubStrs_acc (t :: rest) { s with curOp := some .string, rightOp := .strs [] } [] rfl
          simpa [visitSubStrs, h] using this

structure Clean (s : VState) : Prop where
  err : s.err = none
  stack : s.stack = []
  rightOp : s.rightOp = .nil

def orElseDbg (d : Option Dbg) (old : Option Dbg) : Option Dbg :=
  match d with
  | some x => some x
  | none => old

/-- what visiting from state `s` must return when the (sub-)rule's outcome is `o` -/
def Post (s : VState) (o : Out) (r : VM (Bool × VState)) : Prop :=
  match o.res with
  | .panic p => r = .error ⟨p, s.calls ++ o.calls, orElseDbg o.dbg s.debugErr⟩
  | .fail e => ∃ b s', r = .ok (b, s') ∧ s'.err = some e ∧ s'.debugErr = orElseDbg o.dbg s.debugErr ∧
      s'.calls = s.calls ++ o.calls
  | .verdict b => ∃ s', r = .ok (b, s') ∧ Clean s' ∧ s'.item = s.item ∧
      s'.debugErr = orElseDbg o.dbg s.debugErr ∧ s'.calls = s.calls ++ o.calls

theorem visitPresent_spec (lower : Bytes → Bytes) (s : VState) (hc : Clean s) (path : List String) :
    Post s (leafOut lower s.item (.present path)) (visitPresent s path) := by
  have h1 := visitAttrPath_spec s hc.stack path
  simp only [visitPresent, leafOut, h1]
  cases hd : denote s.item path with
  | error p => simp [Post, orElseDbg]
  | ok v =>
    exact ⟨_, rfl, ⟨hc.err, rfl, hc.rightOp⟩, rfl, rfl, by simp⟩

theorem visitCompare_spec (lower : Bytes → Bytes) (s : VState) (hc : Clean s) (path : List String) (k : Kind) (lit : Lit) :
    Post s (leafOut lower s.item (.compare path k lit)) (visitCompare lower s path k lit) := by
  have h1 := visitAttrPath_spec s hc.stack path
  simp only [visitCompare, leafOut, h1]
  cases hd : denote s.item path with
  | error p => simp [Post, orElseDbg]
  | ok v =>
    have h2 := visitLit_spec { s with leftOp := v, stack := [] } hc.rightOp lit
    cases hl : litOperand lit with
    | none =>
      simp only [hl] at h2
      obtain ⟨s2, hs2, hf⟩ := h2
      simp only [hs2, hf.1, Option.isSome_some, if_true, Post]
      exact ⟨false, s2, rfl, hf.1, by simp [orElseDbg, hf.2.1], by simp [hf.2.2]⟩
    | some kr =>
      obtain ⟨kind, r⟩ := kr
      simp only [hl] at h2
      simp only [h2]
      simp only [hc.err, Option.isSome_none, Bool.false_eq_true, if_false]
      cases hk : cmpOfKind k with
      | none => simp [Post, orElseDbg]
      | some op =>
        simp only []
        -- a verdict, or an operand error that is only recorded, leaves a clean state; the rest fails or panics
        rcases apply lower kind op v r with ⟨b, c⟩ | ⟨_ | _ | _ | _, c⟩ | c
        case panic | err.invalidOperation => simp [Post, orElseDbg]
        all_goals
          simp only [Post, dbgOfErr]
          exact ⟨_, rfl, ⟨rfl, rfl, rfl⟩, rfl, by simp [orElseDbg], rfl⟩

theorem orElseDbg_eq (d old : Option Dbg) : orElseDbg d old = d.or old := by cases d <;> rfl

/-- the result is written as the `match` that the paren branch of `visit` is, so that `exact (ih …).paren neg` closes that
case of `visit_spec` without a rewrite -/
theorem Post.paren {s : VState} {o : Out} {r : VM (Bool × VState)} (neg : Bool) (h : Post s o r) :
    Post s (if neg then o.not else o)
      (match (generalizing := false) r with
       | .error p => .error p
       | .ok (b, s') => .ok (if neg then !b else b, s')) := by
  cases hr : o.res <;> simp only [Post, hr] at h
  · obtain ⟨s', rfl, h⟩ := h; cases neg <;> simpa [Post, Out.not, hr] using h
  · obtain ⟨b, s', rfl, h⟩ := h
    rw [Out.not_of_not_verdict o (by simp [hr, isVerdict]), ite_self]
    simp only [Post, hr]; exact ⟨_, s', rfl, h⟩
  · subst h; simp [Post, Out.not, hr]

theorem Post.seq {s s1 : VState} {a b : Out} {r : VM (Bool × VState)} (hi : s1.item = s.item)
    (hd : s1.debugErr = orElseDbg a.dbg s.debugErr) (hc : s1.calls = s.calls ++ a.calls) (h : Post s1 b r) :
    Post s (a.seq b) r := by
  simpa only [Post, Out.seq_res, Out.seq_dbg, Out.seq_calls, hi, hd, hc, orElseDbg_eq, Option.or_assoc,
    List.append_assoc] using h

/-- **Refinement.** For every rule, from every clean state, the visitor returns the compositional outcome. -/
theorem visit_spec (lower : Bytes → Bytes) (t : Tree) :
    ∀ (s : VState), Clean s → Post s (evalOut lower s.item t) (visit lower t s) := by
  induction t with
  | present path => intro s hc; simpa [visit, evalOut] using visitPresent_spec lower s hc path
  | compare path k lit => intro s hc; simpa [visit, evalOut] using visitCompare_spec lower s hc path k lit
  | paren neg q ih =>
    intro s hc
    rw [evalOut_paren, visit]
    exact (ih s hc).paren neg
  | logical op l r ihl ihr =>
    intro s hc
    have hl := ihl s hc
    rw [evalOut_logical]
    simp only [visit, ite_shortCircuit]
    unfold Post at hl
    split at hl
    · next p hp => simp [hl, hp, Post]
    · next e he =>
      obtain ⟨b, s', h1, h2, h3, h4⟩ := hl
      simp only [h1, h2, he, Option.isSome_some, if_true, reduceCtorEq, if_false, Post]
      exact ⟨_, s', rfl, h2, h3, h4⟩
    · next x hx =>
      obtain ⟨s1, h1, h2, h3, h4, h5⟩ := hl
      simp only [h1, h2.err, hx, Option.isSome_none, Bool.false_eq_true, if_false, Res.verdict.injEq]
      split
      · exact (h3 ▸ ihr s1 h2).seq h3 h4 h5
      · simp only [Post, hx]; exact ⟨s1, rfl, h2, h3, h4, h5⟩

/-- `Process` on a parsed rule returns the observable of the compositional outcome. -/
theorem processTree_eq (lower : Bytes → Bytes) (t : Tree) (item : List (Bytes × Value)) :
    processTree lower t item = toProc (evalOut lower item t) := by
  have := visit_spec lower t (VState.init item) ⟨rfl, rfl, rfl⟩
  unfold processTree toProc
  cases hr : (evalOut lower item t).res <;> simp only [Post, hr, VState.init, orElseDbg_eq] at this
  · obtain ⟨s', h1, h2, -, h4, h5⟩ := this; simp [VState.init, h1, h2.err, h4, h5]
  · obtain ⟨b, s', h1, h2, h3, h4⟩ := this; simp [VState.init, h1, h2, h3, h4]
  · simp [VState.init, this]

end Rules
