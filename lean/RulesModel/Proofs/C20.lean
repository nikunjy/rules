import RulesModel.Model.Api
import RulesModel.Generated.Grammar
import RulesModel.Proofs.Chars
/-!
C20 — the shipped lexer and parser implement the documented grammar. The model side *is* the documented grammar, and that
is what is proved: the lexer for any token table (`deriv_iff`, `longest_spec`, `bestMatch_eq_some_iff`, `lex_eq_some_iff` in
`Model/`; `C20_maximal_munch`, `C20_priority`), the parser (`parse_iff`, `D_unique`), `lexParse_iff`, and the named lexical
facts, checked by the kernel on the table regenerated from parser/JsonQuery.g4: `order` is an attribute and `or` is not,
`1.2.3` is a version and `1.2` a decimal, `<=` is one operator, `e5` is an attribute (ATTRNAME is listed before EXP), `1e5` is
INT ATTRNAME, `e+5` is EXP, `~` is a lexical error. The checked-in generated Go code is compared with this model by the
correspondence (tokens, accept/reject, tree shape); of that code only the lexer's tables are the subject of a theorem
(`lexer_atn_language`, `Tie/LexerATNProof.lean`).
-/
namespace Rules
open Rules.Regex

/-- **Maximal munch.** The token chosen at the head of `s` is at least as long as any prefix any rule matches. -/
theorem C20_maximal_munch (rules : List (Kind × Regex)) (s : List Char) (k : Kind) (n : Nat)
    (h : bestMatch rules s = some (k, n)) :
    ∀ kr ∈ rules, ∀ m, m ≤ s.length → Matches kr.2 (s.take m) → m ≤ n := by
  obtain ⟨_, _, _, _, _, hmax, _⟩ := bestMatch_eq_some_iff.1 h
  exact fun kr hkr m hm hmatch => Nat.le_trans (le_matchLen hm hmatch) (hmax kr hkr)

/-- **Keywords win ties.** No rule listed before the chosen one matches the chosen prefix. -/
theorem C20_priority (rules : List (Kind × Regex)) (s : List Char) (k : Kind) (n : Nat)
    (h : bestMatch rules s = some (k, n)) :
    ∃ i, ∃ hi : i < rules.length, (rules[i]).1 = k ∧ Matches (rules[i]).2 (s.take n) ∧
      ∀ j, ∀ hj : j < rules.length, j < i → ¬ Matches (rules[j]).2 (s.take n) := by
  obtain ⟨hn, i, hi, e1, rfl, _, hfirst⟩ := bestMatch_eq_some_iff.1 h
  exact ⟨i, hi, e1, matches_matchLen hn, fun j hj hji hm =>
    Nat.lt_irrefl _ (Nat.lt_of_le_of_lt (le_matchLen (matchLen_le _ s) hm) (hfirst j hj hji))⟩

def genKinds (s : String) : Option (List Kind) := (lex Generated.lexerRules s.toList).map (·.map (·.kind))

theorem C20_order_is_attribute : genKinds "order eq 1" = some [22, 30, 13, 30, 26] := by decide +kernel
theorem C20_or_is_operator : genKinds "or" = some [9] := by decide +kernel
theorem C20_version_vs_decimal : genKinds "1.2.3" = some [23] ∧ genKinds "1.2" = some [25] := by decide +kernel
theorem C20_le_one_token : genKinds "<=" = some [18] ∧ genKinds "<" = some [16] := by decide +kernel
theorem C20_exponent_ties : genKinds "e5" = some [22] ∧ genKinds "1e5" = some [26, 22] ∧ genKinds "1e+5" = some [26, 27] := by
  decide +kernel
theorem C20_lexical_error : genKinds "x ~ 1" = none := by decide +kernel
theorem C20_attr_chars : genKinds "a-b_c:d9.E" = some [22, 4, 22] ∧ genKinds "9a" = some [26, 22] := by decide +kernel
theorem C20_minus_double : genKinds "-1.5" = some [25] ∧ genKinds "-1" = some [5, 26] := by decide +kernel

/-- the statement's grouping example read by the model recogniser on the regenerated table -/
theorem C20_grouping :
    lexParse Generated.lexerRules "a pr or b pr and c pr".toList =
      some (.logical "and" (.logical "or" (.present ["a"]) (.present ["b"])) (.present ["c"])) := by
  simp only [toList_eq_chars]
  decide +kernel

theorem C20_rejects : lexParse Generated.lexerRules "x eq 1 AND y eq 2".toList = none ∧
    lexParse Generated.lexerRules "x lt 1e5".toList = none ∧ lexParse Generated.lexerRules "x eq 01".toList = none ∧
    lexParse Generated.lexerRules "not x eq 1".toList = none := by
  simp only [toList_eq_chars]
  decide +kernel

end Rules
