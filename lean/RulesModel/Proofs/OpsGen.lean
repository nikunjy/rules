import RulesModel.Generated.Ops
import RulesModel.Proofs.VisitFrame
import RulesModel.Proofs.OpsLemmas
/-!
The Operation methods as translated from the Go source on this run are the model's. The translations of the
Null/Bool/Int/Float/Version methods take no log of Stringer calls; the key lemma of each family has the form
`.ok (method …, w) = embed w (model outcome)` for any operator and any log `w` of earlier calls, which is what `dispatch`
returns for it and says, since the log comes back as it went in, that the model's outcome asked no Stringer. `RightOK` (an
`IntOperation` never meets a float64 rule operand) is what the literal visitors guarantee (`visitLit_rightOK`).
-/
namespace Rules.OpsGen
open Rules Rules.Go Rules.GenOps

/-- the pair a translated method returns for the model's result `r` (`embedP_of_embed`); a panic returns nothing, its
value here is never looked at -/
def embedP : OpRes → Bool × Option GErr
  | .ok b _ => (b, none)
  | .err e _ => (false, some (.op e))
  | .panic _ => (false, none)

theorem embedP_of_embed {x : Bool × Option GErr} {w : W} {r : OpRes} (h : (.ok (x, w) : OM _) = embed w r) :
    x = embedP r := by
  cases r <;> simp [embed, embedP] at h ⊢ <;> exact h.1

@[simp] theorem embed_ok_nil (w : W) (b : Bool) : embed w (.ok b []) = .ok ((b, none), w) := by simp [embed]
@[simp] theorem embed_err_nil (w : W) (e : OpErr) : embed w (.err e []) = .ok ((false, some (.op e)), w) := by simp [embed]

/-- the tail of every relational method after its `get`: `if err != nil { return false, err }; return l <op> r, nil`;
`FloatOperation_EQ lower p q` *is* `relTail F64.eq (FloatOperation_get lower p q)`, and so for the others -/
def relTail {α} (f : α → α → Bool) (g : α × α × Option GErr) : Bool × Option GErr :=
  if g.2.2.isSome then (false, g.2.2) else (f g.1 g.2.1, none)

@[simp] theorem isNilG_ofV (l : Value) : isNilG (GoVal.ofV l) = l.isNull := by cases l <;> rfl

theorem toFloat_V (lower : Bytes → Bytes) (l : Value) :
    toFloat lower (GoVal.ofV l) = match toFloatL l with
      | some f => (f, none)
      | none => (F64.ofInt 0, some (.op .invalidOperand)) := by
  cases l <;> simp [toFloat, GoVal.ofV, toFloatL]

theorem toFloat_R (lower : Bytes → Bytes) (r : ROp) :
    toFloat lower (GoVal.ofR r) = match toFloatR r with
      | some f => (f, none)
      | none => (F64.ofInt 0, some (.op .invalidOperand)) := by
  cases r <;> simp [toFloat, GoVal.ofR, toFloatR]

theorem float_relTail (lower : Bytes → Bytes) (op : CmpOp) (l : Value) (r : ROp) (w : W) :
    (.ok (relTail (floatRel op) (FloatOperation_get lower (GoVal.ofV l) (GoVal.ofR r)), w) : OM _) =
      embed w (floatRelOp op l r) := by
  unfold FloatOperation_get floatRelOp
  rw [toFloat_V, toFloat_R]
  cases l <;> simp [Value.isNull, relTail, toFloatL] <;> cases toFloatR r <;> simp

theorem float_rel (lower : Bytes → Bytes) (l : Value) (r : ROp) :
    FloatOperation_EQ lower (GoVal.ofV l) (GoVal.ofR r) = embedP (floatRelOp .eq l r) ∧
    FloatOperation_NE lower (GoVal.ofV l) (GoVal.ofR r) = embedP (floatRelOp .ne l r) ∧
    FloatOperation_GT lower (GoVal.ofV l) (GoVal.ofR r) = embedP (floatRelOp .gt l r) ∧
    FloatOperation_LT lower (GoVal.ofV l) (GoVal.ofR r) = embedP (floatRelOp .lt l r) ∧
    FloatOperation_GE lower (GoVal.ofV l) (GoVal.ofR r) = embedP (floatRelOp .ge l r) ∧
    FloatOperation_LE lower (GoVal.ofV l) (GoVal.ofR r) = embedP (floatRelOp .le l r) :=
  have h := fun op => embedP_of_embed (float_relTail lower op l r [])
  ⟨h .eq, h .ne, h .gt, h .lt, h .ge, h .le⟩

theorem forRange_any (rs : List F64) (a : F64) :
    Go.forRange rs (fun v => if F64.eq v a = true then some (true, (none : Option GErr)) else none) =
      if rs.any (fun r => F64.eq r a) then some (true, none) else none := by
  induction rs with
  | nil => simp [Go.forRange]
  | cons x xs ih =>
    simp only [Go.forRange, List.any_cons]
    by_cases h : F64.eq x a = true <;> simp [h, ih]

theorem float_in_embed (lower : Bytes → Bytes) (l : Value) (r : ROp) (w : W) :
    (.ok (FloatOperation_IN lower (GoVal.ofV l) (GoVal.ofR r), w) : OM _) = embed w (floatOp .in_ l r) := by
  unfold FloatOperation_IN
  rw [toFloat_V]
  cases hl : toFloatL l with
  | none => simp [floatOp, hl]
  | some a =>
    cases r <;> simp [floatOp, hl, GoVal.ofR, asFloats]
    rename_i rs
    rw [forRange_any rs a]
    cases rs.any (fun r => F64.eq r a) <;> simp

theorem float_in (lower : Bytes → Bytes) (l : Value) (r : ROp) :
    FloatOperation_IN lower (GoVal.ofV l) (GoVal.ofR r) = embedP (floatOp .in_ l r) :=
  embedP_of_embed (float_in_embed lower l r [])

def NotFloat : ROp → Prop
  | .float _ => False
  | _ => True

theorem toInt_V (lower : Bytes → Bytes) (l : Value) (h : ∀ f, l ≠ .float f) :
    toInt lower (GoVal.ofV l) = match toIntL l with
      | some n => (n, none)
      | none => (0, some (.op .invalidOperand)) := by
  cases l <;> simp [toInt, GoVal.ofV, toIntL] at *

theorem toInt_R (lower : Bytes → Bytes) (r : ROp) (h : NotFloat r) :
    toInt lower (GoVal.ofR r) = match toIntR r with
      | some n => (n, none)
      | none => (0, some (.op .invalidOperand)) := by
  cases r <;> simp [toInt, GoVal.ofR, toIntR, NotFloat] at *

/-- every relational method of `IntOperation` hands a float64 attribute to `FloatOperation`, then is `get` and the tail -/
theorem int_relTail (lower : Bytes → Bytes) (op : CmpOp) (l : Value) (r : ROp) (h : NotFloat r) (w : W) :
    (.ok (if (asFloat (GoVal.ofV l)).2 then relTail (floatRel op) (FloatOperation_get lower (GoVal.ofV l) (GoVal.ofR r))
          else relTail (intRel op) (IntOperation_get lower (GoVal.ofV l) (GoVal.ofR r)), w) : OM _) =
      embed w (intRelOp op l r) := by
  cases l with
  | float f => simpa [GoVal.ofV, asFloat, intRelOp] using float_relTail lower op (.float f) r w
  | _ =>
    unfold IntOperation_get intRelOp
    rw [toInt_R lower r h]
    simp [GoVal.ofV, isNilG, asFloat, relTail, toInt, toIntL] <;> cases toIntR r <;> simp

theorem int_rel (lower : Bytes → Bytes) (l : Value) (r : ROp) (h : NotFloat r) :
    IntOperation_EQ lower (GoVal.ofV l) (GoVal.ofR r) = embedP (intRelOp .eq l r) ∧
    IntOperation_NE lower (GoVal.ofV l) (GoVal.ofR r) = embedP (intRelOp .ne l r) ∧
    IntOperation_GT lower (GoVal.ofV l) (GoVal.ofR r) = embedP (intRelOp .gt l r) ∧
    IntOperation_LT lower (GoVal.ofV l) (GoVal.ofR r) = embedP (intRelOp .lt l r) ∧
    IntOperation_GE lower (GoVal.ofV l) (GoVal.ofR r) = embedP (intRelOp .ge l r) ∧
    IntOperation_LE lower (GoVal.ofV l) (GoVal.ofR r) = embedP (intRelOp .le l r) :=
  have k := fun op => embedP_of_embed (int_relTail lower op l r h [])
  ⟨k .eq, k .ne, k .gt, k .lt, k .ge, k .le⟩

theorem int_in_embed (lower : Bytes → Bytes) (l : Value) (r : ROp) (w : W) :
    (.ok (IntOperation_IN lower (GoVal.ofV l) (GoVal.ofR r), w) : OM _) = embed w (intOp .in_ l r) := by
  unfold IntOperation_IN
  cases r <;> simp [intOp, GoVal.ofR, asInts]
  rename_i ns
  induction ns with
  | nil => simp [Go.forRange, intInLoop]
  | cons n rest ih =>
    have h : (.ok (IntOperation_EQ lower (GoVal.ofV l) (GoVal.int n), w) : OM _) = _ := int_relTail lower .eq l (.int n) trivial w
    simp only [Go.forRange, intInLoop]
    cases hr : intRelOp .eq l (.int n) <;> simp only [hr, embed, Except.ok.injEq, Prod.mk.injEq, reduceCtorEq] at h
    · rename_i b c
      cases b <;> simp [h.1, embed, ← h.2, ih]
    · simp [h.1, embed, ← h.2]

theorem int_in (lower : Bytes → Bytes) (l : Value) (r : ROp) :
    IntOperation_IN lower (GoVal.ofV l) (GoVal.ofR r) = embedP (intOp .in_ l r) :=
  embedP_of_embed (int_in_embed lower l r [])

theorem bool_embed (lower : Bytes → Bytes) (l : Value) (r : ROp) (w : W) :
    (.ok (BoolOperation_EQ lower (GoVal.ofV l) (GoVal.ofR r), w) : OM _) = embed w (boolOp .eq l r) ∧
    (.ok (BoolOperation_NE lower (GoVal.ofV l) (GoVal.ofR r), w) : OM _) = embed w (boolOp .ne l r) := by
  cases l <;> simp [BoolOperation_EQ, BoolOperation_NE, BoolOperation_get, boolOp, GoVal.ofV, isNilG, asBool] <;>
    cases r <;> simp [GoVal.ofR, bne]

theorem bool_rel (lower : Bytes → Bytes) (l : Value) (r : ROp) :
    BoolOperation_EQ lower (GoVal.ofV l) (GoVal.ofR r) = embedP (boolOp .eq l r) ∧
    BoolOperation_NE lower (GoVal.ofV l) (GoVal.ofR r) = embedP (boolOp .ne l r) :=
  ⟨embedP_of_embed (bool_embed lower l r []).1, embedP_of_embed (bool_embed lower l r []).2⟩

theorem getString_V (lower : Bytes → Bytes) (w : W) (l : Value) :
    StringOperation_getString lower w (GoVal.ofV l) = match getStringL l with
      | .str s c => .ok ((s, none), w ++ c)
      | .invalid => .ok (([], some (.op .invalidOperand)), w)
      | .panic c => .error (w ++ c) := by
  cases l with
  | stringer id beh => cases beh <;> simp [StringOperation_getString, GoVal.ofV, getStringL, callString]
  | _ => simp [StringOperation_getString, GoVal.ofV, getStringL]

theorem getString_R (lower : Bytes → Bytes) (w : W) (r : ROp) :
    StringOperation_getString lower w (GoVal.ofR r) = match getStringR r with
      | some s => .ok ((s, none), w)
      | none => .ok (([], some (.op .invalidOperand)), w) := by
  cases r <;> simp [StringOperation_getString, GoVal.ofR, getStringR]

/-- `relTail` for `StringOperation`, whose `get` may have panicked in a `String()` -/
def relTailM (f : Bytes → Bytes → Bool) (g : OM ((Bytes × Bytes × Option GErr) × W)) : OM ((Bool × Option GErr) × W) :=
  match g with
  | .error p => .error p
  | .ok ((a, b, e), w) => if e.isSome then .ok ((false, e), w) else .ok ((f a b, none), w)

theorem string_relTail (lower : Bytes → Bytes) (op : CmpOp) (w : W) (l : Value) (r : ROp) :
    relTailM (strRel op) (StringOperation_get lower w (GoVal.ofV l) (GoVal.ofR r)) = embed w (strRelOp lower op l r) := by
  unfold StringOperation_get strRelOp
  simp only [getString_V, getString_R, isNilG_ofV]
  cases l with
  | str s => cases getStringR r <;> simp [Value.isNull, relTailM, getStringL, embed]
  | stringer id beh => cases beh <;> cases getStringR r <;> simp [Value.isNull, relTailM, getStringL, embed]
  | _ => simp [Value.isNull, relTailM, getStringL, embed]

theorem string_rel (lower : Bytes → Bytes) (w : W) (l : Value) (r : ROp) :
    StringOperation_EQ lower w (GoVal.ofV l) (GoVal.ofR r) = embed w (strRelOp lower .eq l r) ∧
    StringOperation_NE lower w (GoVal.ofV l) (GoVal.ofR r) = embed w (strRelOp lower .ne l r) ∧
    StringOperation_GT lower w (GoVal.ofV l) (GoVal.ofR r) = embed w (strRelOp lower .gt l r) ∧
    StringOperation_LT lower w (GoVal.ofV l) (GoVal.ofR r) = embed w (strRelOp lower .lt l r) ∧
    StringOperation_GE lower w (GoVal.ofV l) (GoVal.ofR r) = embed w (strRelOp lower .ge l r) ∧
    StringOperation_LE lower w (GoVal.ofV l) (GoVal.ofR r) = embed w (strRelOp lower .le l r) ∧
    StringOperation_CO lower w (GoVal.ofV l) (GoVal.ofR r) = embed w (strRelOp lower .co l r) ∧
    StringOperation_SW lower w (GoVal.ofV l) (GoVal.ofR r) = embed w (strRelOp lower .sw l r) ∧
    StringOperation_EW lower w (GoVal.ofV l) (GoVal.ofR r) = embed w (strRelOp lower .ew l r) :=
  have h := fun op => string_relTail lower op w l r
  ⟨h .eq, h .ne, h .gt, h .lt, h .ge, h .le, h .co, h .sw, h .ew⟩

theorem embed_addCalls (w c : W) (r : OpRes) : embed w (r.addCalls c) = embed (w ++ c) r := by
  cases r <;> simp [embed, OpRes.addCalls, List.append_assoc]

theorem string_in (lower : Bytes → Bytes) (w : W) (l : Value) (r : ROp) :
    StringOperation_IN lower w (GoVal.ofV l) (GoVal.ofR r) = embed w (stringOp lower .in_ l r) := by
  unfold StringOperation_IN
  cases r <;> simp [stringOp, GoVal.ofR, asStrs]
  rename_i vs
  induction vs generalizing w with
  | nil => simp [Go.forRangeM, strInLoop]
  | cons v rest ih =>
    have h : StringOperation_EQ lower w (GoVal.ofV l) (GoVal.str v) = _ := string_relTail lower .eq w l (.str v)
    simp only [Go.forRangeM, strInLoop, h]
    cases strRelOp lower .eq l (.str v) with
    | ok b c =>
      cases b
      · rw [embed_addCalls]
        simpa [embed] using ih (w ++ c)
      · simp [embed]
    | _ => simp [embed]

theorem version_relTail (lower : Bytes → Bytes) (op : CmpOp) (hop : isRelational op = true) (l : Value) (r : ROp) (w : W) :
    (.ok (relTail (fun a b => verRel op (a.cmp b)) (VersionOperation_get lower (GoVal.ofV l) (GoVal.ofR r)), w) : OM _) =
      embed w (versionOp op l r) := by
  rw [versionOp_eq hop]
  unfold VersionOperation_get
  cases l with
  | str a =>
    cases r with
    | str b => cases ha : Sv.parse (natBytes a) <;> cases hb : Sv.parse (natBytes b) <;>
        simp [GoVal.ofV, GoVal.ofR, asStr, getStringR, relTail, semverMake, ha, hb]
    | _ => simp [GoVal.ofV, GoVal.ofR, asStr, getStringR, relTail]
  | _ => simp [GoVal.ofV, asStr, relTail]

theorem null_dispatch (lower : Bytes → Bytes) (op : CmpOp) (l : Value) (r : ROp) (w : W) :
    dispatch lower .null op (GoVal.ofV l) (GoVal.ofR r) w = embed w (nullOp op l) := by
  cases op <;> simp only [nullOp, embed, List.append_nil, ← isNilG_ofV] <;> rfl

def RightOK (k : OpKind) (r : ROp) : Prop := k = .int → NotFloat r

/-- **The translated Operation methods compute what the model's `apply` computes**: for every Operation type, every
operator (with Go's method promotion through the embedded `NullOperation`), every attribute value and every rule
operand the visitor can pair with that type, started with any log of earlier Stringer calls. -/
theorem dispatch_spec (lower : Bytes → Bytes) (k : OpKind) (op : CmpOp) (l : Value) (r : ROp) (w : W) (h : RightOK k r) :
    dispatch lower k op (GoVal.ofV l) (GoVal.ofR r) w = embed w (apply lower k op l r) := by
  have hnull := null_dispatch lower op l r w
  cases k with
  | null => exact hnull
  | bool =>
    cases op with
    | eq => exact (bool_embed lower l r w).1
    | ne => exact (bool_embed lower l r w).2
    | _ => exact hnull
  | int =>
    have hrel := int_relTail lower op l r (h rfl) w
    cases op with
    | in_ => exact int_in_embed lower l r w
    | co | sw | ew => exact hnull
    | _ => exact hrel
  | float =>
    have hrel := float_relTail lower op l r w
    cases op with
    | in_ => exact float_in_embed lower l r w
    | co | sw | ew => exact hnull
    | _ => exact hrel
  | string =>
    have hrel := string_relTail lower op w l r
    cases op with
    | in_ => exact string_in lower w l r
    | _ => exact hrel
  | version =>
    have hrel := fun h => version_relTail lower op h l r w
    cases op with
    | co | sw | ew | in_ => exact hnull
    | _ => exact hrel rfl

theorem null_all (lower : Bytes → Bytes) (l : Value) (r : ROp) :
    NullOperation_EQ lower (GoVal.ofV l) (GoVal.ofR r) = embedP (nullOp .eq l) ∧
    NullOperation_NE lower (GoVal.ofV l) (GoVal.ofR r) = embedP (nullOp .ne l) ∧
    NullOperation_GT lower (GoVal.ofV l) (GoVal.ofR r) = embedP (nullOp .gt l) ∧
    NullOperation_LT lower (GoVal.ofV l) (GoVal.ofR r) = embedP (nullOp .lt l) ∧
    NullOperation_GE lower (GoVal.ofV l) (GoVal.ofR r) = embedP (nullOp .ge l) ∧
    NullOperation_LE lower (GoVal.ofV l) (GoVal.ofR r) = embedP (nullOp .le l) ∧
    NullOperation_CO lower (GoVal.ofV l) (GoVal.ofR r) = embedP (nullOp .co l) ∧
    NullOperation_SW lower (GoVal.ofV l) (GoVal.ofR r) = embedP (nullOp .sw l) ∧
    NullOperation_EW lower (GoVal.ofV l) (GoVal.ofR r) = embedP (nullOp .ew l) ∧
    NullOperation_IN lower (GoVal.ofV l) (GoVal.ofR r) = embedP (nullOp .in_ l) :=
  have h {x} (op) (hx : dispatch lower .null op (GoVal.ofV l) (GoVal.ofR r) [] = .ok (x, [])) : x = embedP (nullOp op l) :=
    embedP_of_embed (hx.symm.trans (null_dispatch lower op l r []))
  ⟨h .eq rfl, h .ne rfl, h .gt rfl, h .lt rfl, h .ge rfl, h .le rfl, h .co rfl, h .sw rfl, h .ew rfl, h .in_ rfl⟩

theorem version_rel (lower : Bytes → Bytes) (l : Value) (r : ROp) :
    VersionOperation_EQ lower (GoVal.ofV l) (GoVal.ofR r) = embedP (versionOp .eq l r) ∧
    VersionOperation_NE lower (GoVal.ofV l) (GoVal.ofR r) = embedP (versionOp .ne l r) ∧
    VersionOperation_GT lower (GoVal.ofV l) (GoVal.ofR r) = embedP (versionOp .gt l r) ∧
    VersionOperation_LT lower (GoVal.ofV l) (GoVal.ofR r) = embedP (versionOp .lt l r) ∧
    VersionOperation_GE lower (GoVal.ofV l) (GoVal.ofR r) = embedP (versionOp .ge l r) ∧
    VersionOperation_LE lower (GoVal.ofV l) (GoVal.ofR r) = embedP (versionOp .le l r) :=
  have h := fun op hop => embedP_of_embed (version_relTail lower op hop l r [])
  ⟨h .eq rfl, h .ne rfl, h .gt rfl, h .lt rfl, h .ge rfl, h .le rfl⟩

open Rules.P (Lit)

theorem visitSubInts_notFloat (xs : List String) (s s' : VState) (he : visitSubInts s xs = .ok s')
    (h : xs = [] → NotFloat s.rightOp) : NotFloat s'.rightOp := by
  fun_induction visitSubInts s xs
  case case1 => cases he; exact h rfl
  case case2 hl _ => cases he; exact hl ▸ trivial
  case case3 ih => exact ih he fun _ => trivial
  case case4 => cases he

/-- `hs`: every literal sets both registers, except the empty list of ints, which no parse tree holds and which leaves the
rule operand as it was -/
theorem visitLit_notFloat (s s' : VState) (lit : Lit) (hs : lit = .list P.INT [] → NotFloat s.rightOp)
    (he : visitLit s lit = .ok s') : s'.curOp = some .int → NotFloat s'.rightOp := by
  cases lit with
  | list k xs =>
    simp only [visitLit] at he
    split at he
    · exact fun _ => visitSubInts_notFloat xs _ s' he fun hx => hs (by simp [*])
    -- the other list visitors leave the Operation type as it was set: not `IntOperation`
    · split at he
      · rw [visitSubFloats_frame xs _ s' he]; simp
      · rw [visitSubStrs_frame xs _ s' he]; simp
  | _ =>
    -- every other literal sets both registers: another Operation type, or an int or nil operand
    simp only [visitLit] at he
    repeat' split at he
    all_goals cases he; simp [NotFloat]

theorem visitLit_rightOK (s s' : VState) (lit : Lit) (hs : s.rightOp = .nil) (he : visitLit s lit = .ok s')
    (k : OpKind) (hk : s'.curOp = some k) : RightOK k s'.rightOp :=
  fun hki => visitLit_notFloat s s' lit (fun _ => by simp [hs, NotFloat]) he (hki ▸ hk)

/-- **Every `currentOperation.<OP>(leftOp, rightOp)` the visitor performs**: once a literal has been visited from a state
whose rule operand is nil (the state `VisitCompareExp` starts from), the translated method – selected through Go's
method promotion – returns what the model's `apply` returns, with the same Stringer calls in the same order. -/
theorem ops_translated (lower : Bytes → Bytes) (s s' : VState) (lit : Lit) (hs : s.rightOp = .nil)
    (he : visitLit s lit = .ok s') (k : OpKind) (hk : s'.curOp = some k) (op : CmpOp) (w : W) :
    dispatch lower k op (GoVal.ofV s'.leftOp) (GoVal.ofR s'.rightOp) w = embed w (apply lower k op s'.leftOp s'.rightOp) :=
  dispatch_spec lower k op s'.leftOp s'.rightOp w (visitLit_rightOK s s' lit hs he k hk)

/-- for the kernel-evaluated examples: `GErr` has no decidable equality -/
def obs : OM ((Bool × Option GErr) × W) → Option (Bool × Bool × W)
  | .ok ((b, e), w) => some (b, e.isSome, w)
  | .error _ => none

/-- non-vacuity: `x in ["b", "a"]` on a Stringer attribute asks it once per element compared, through the translated code -/
example : obs (dispatch id .string .in_ (GoVal.ofV (.stringer 7 (.ret (bytesOf "a")))) (GoVal.ofR (.strs [bytesOf "b", bytesOf "a"])) [3])
    = some (true, false, [3, 7, 7]) := by decide +kernel
example : obs (dispatch id .int .ge (GoVal.ofV (.float (F64.ofInt 2))) (GoVal.ofR (.int 1)) []) = some (true, false, []) := by decide +kernel
example : obs (dispatch id .version .co (GoVal.ofV (.str (bytesOf "1.0.0"))) (GoVal.ofR (.str (bytesOf "1.0.0"))) []) = some (false, true, []) := by decide +kernel
end Rules.OpsGen
