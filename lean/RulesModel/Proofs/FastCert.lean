import RulesModel.Model.ATN
/-!
# A cheaper way to have the kernel accept a certificate

`NFA.ruleOK` is executable, but two things in it are dear when the kernel runs it: `justB` recomputes its reachability
fixpoint `|P'|` times over (and evaluates `direct` on every member), and `atnM` scans all edges of the ATN at every step.
Here: a breadth-first search from the successor set that implies `justB` on ε-closed sets (`reachesAll_sound`,
`succFast_sound`), the same automaton with its edges grouped by source state (`atnMI_eq`), and `ruleOKFast`, which uses
both and implies `ruleOK`.
-/
namespace Rules.NFA

section just
variable {σ : Type} [DecidableEq σ]

theorem mem_insertAll {S xs : List σ} {x : σ} (h : x ∈ insertAll S xs) : x ∈ S ∨ x ∈ xs := by
  induction xs generalizing S with
  | nil => exact .inl h
  | cons y ys ih =>
    rcases ih (S := if S.contains y then S else S ++ [y]) h with h | h
    · have : x ∈ S ∨ x = y := by split at h <;> simp_all
      exact this.imp_right (by rintro rfl; exact List.mem_cons_self)
    · exact .inr (List.mem_cons_of_mem _ h)

/-- breadth-first search along ε-edges: `R` is what has been reached, `F` the layer found last -/
def reach (M : ENFA σ) : Nat → List σ → List σ → List σ
  | 0, R, _ => R
  | n + 1, R, F =>
    match insertAll [] ((F.flatMap M.eps).filter fun x => !R.contains x) with
    | [] => R
    | N => reach M n (R ++ N) N

def reachesAll (M : ENFA σ) (start P' : List σ) : Bool := P'.all (reach M P'.length start start).contains

theorem justSet_sub {M : ENFA σ} {d : σ → Bool} {P' : List σ} : ∀ {n : Nat} {x : σ}, x ∈ justSet M d P' n → x ∈ P'
  | 0, _, h => (mem_justSet_zero.1 h).1
  | _ + 1, _, h => (mem_justSet_succ.1 h).1

theorem justSet_mono {M : ENFA σ} {d : σ → Bool} {P' : List σ} {k : Nat} {x : σ} (h : x ∈ justSet M d P' k) :
    ∀ n, x ∈ justSet M d P' (k + n)
  | 0 => h
  | n + 1 => mem_justSet_succ.2 ⟨justSet_sub h, .inl (justSet_mono h n)⟩

theorem reach_sub {M : ENFA σ} {d : σ → Bool} {P' : List σ} (hc : closedB M P' = true) : ∀ (n k : Nat) (R F : List σ),
    (∀ x ∈ R, x ∈ justSet M d P' k) → (∀ x ∈ F, x ∈ R) → ∀ x ∈ reach M n R F, x ∈ justSet M d P' (k + n)
  | 0, _, _, _, hR, _, x, hx => hR x hx
  | n + 1, k, R, F, hR, hF, x, hx => by
    rw [reach] at hx
    split at hx
    · exact justSet_mono (hR x hx) _
    · rw [← Nat.add_assoc, Nat.add_right_comm]
      refine reach_sub hc n (k + 1) _ _ (fun y hy => ?_) (fun y hy => List.mem_append_right _ hy) x hx
      rcases List.mem_append.1 hy with hy | hy
      · exact justSet_mono (hR y hy) 1
      · rcases mem_insertAll hy with hy | hy
        · cases hy
        · obtain ⟨z, hz, hyz⟩ := List.mem_flatMap.1 (List.mem_filter.1 hy).1
          have hz' := hR z (hF z hz)
          exact mem_justSet_succ.2 ⟨closed_mem hc (justSet_sub hz') hyz, .inr ⟨z, hz', hyz⟩⟩

theorem reachesAll_sound {M : ENFA σ} {d : σ → Bool} {start P' : List σ} (hc : closedB M P' = true)
    (hs : ∀ x ∈ start, x ∈ P' ∧ d x = true) (h : reachesAll M start P' = true) : justB M d P' = true := by
  refine List.all_eq_true.2 fun x hx => ?_
  have := reach_sub hc P'.length 0 start start (fun y hy => mem_justSet_zero.2 (hs y hy)) (fun _ hy => hy) x
    (by simpa using List.all_eq_true.1 h x hx)
  simpa using this

theorem mem_stepSet {M : ENFA σ} {S : List σ} {a : Nat} {x : σ} (h : x ∈ stepSet M S a) :
    ∃ q ∈ S, ∃ py ∈ M.chr q, py.1.test a = true ∧ py.2 = x := by
  rcases mem_insertAll h with h | h
  · cases h
  · simpa only [List.mem_flatMap, List.mem_filterMap, Option.ite_none_right_eq_some, Option.some.injEq] using h

def succFast (M : ENFA σ) (P : List σ) (a : Nat) (P' : List σ) : Bool :=
  coversB M P a P' && reachesAll M (stepSet M P a) P'

theorem succFast_sound {M : ENFA σ} {P P' : List σ} {a : Nat} (hc : closedB M P' = true)
    (h : succFast M P a P' = true) : succOK M P a P' = true := by
  simp only [succFast, succOK, Bool.and_eq_true] at h ⊢
  refine ⟨h.1, reachesAll_sound hc (fun x hx => ?_) h.2⟩
  obtain ⟨q, hq, py, hpy, ht, rfl⟩ := mem_stepSet hx
  constructor
  · simpa [ht] using List.all_eq_true.1 (List.all_eq_true.1 h.1 q hq) py hpy
  · exact List.any_eq_true.2 ⟨q, hq, List.any_eq_true.2 ⟨py, hpy, by simp [ht]⟩⟩
end just

section check
variable {σ₁ σ₂ : Type} [DecidableEq σ₁] [DecidableEq σ₂]

def checkCertFast (M₁ : ENFA σ₁) (M₂ : ENFA σ₂) (C : Cert σ₁ σ₂) : Bool :=
  coverB 0 C.classes && C.pairs.all fun PQ =>
    closedB M₁ PQ.1 && closedB M₂ PQ.2 && (PQ.1.any M₁.acc == PQ.2.any M₂.acc) &&
    C.classes.all fun ab =>
      uniformB M₁ PQ.1 ab.1 ab.2 && uniformB M₂ PQ.2 ab.1 ab.2 &&
      C.pairs.any fun PQ' => succFast M₁ PQ.1 ab.1 PQ'.1 && succFast M₂ PQ.2 ab.1 PQ'.2

theorem checkCertFast_closed {M₁ : ENFA σ₁} {M₂ : ENFA σ₂} {C : Cert σ₁ σ₂} (h : checkCertFast M₁ M₂ C = true)
    {PQ : List σ₁ × List σ₂} (hPQ : PQ ∈ C.pairs) : closedB M₁ PQ.1 = true ∧ closedB M₂ PQ.2 = true := by
  simp only [checkCertFast, Bool.and_eq_true, List.all_eq_true] at h
  exact (h.2 PQ hPQ).1.1

theorem checkCertFast_sound {M₁ : ENFA σ₁} {M₂ : ENFA σ₂} {C : Cert σ₁ σ₂} (h : checkCertFast M₁ M₂ C = true) :
    checkCert M₁ M₂ C = true := by
  simp only [checkCertFast, checkCert, checkPair, Bool.and_eq_true, List.all_eq_true, List.any_eq_true] at h ⊢
  refine ⟨h.1, fun PQ hPQ => ⟨(h.2 PQ hPQ).1, fun ab hab => ?_⟩⟩
  obtain ⟨hu, PQ', hPQ', h1, h2⟩ := (h.2 PQ hPQ).2 ab hab
  obtain ⟨hc1, hc2⟩ := (h.2 PQ' hPQ').1.1
  exact ⟨hu, PQ', hPQ', succFast_sound hc1 h1, succFast_sound hc2 h2⟩
end check

def Edge.src : Edge → Nat
  | .eps s _ | .chr s _ _ | .call s _ _ => s

/-- what `atnEps` and `atnChr` look at in state `s` -/
def ATN.only (A : ATN) (s : Nat) : ATN := ⟨A.edges.filter (·.src = s), A.stops.filter (· = s)⟩

/-- `A.only s` for `s < 32 * 32`, in rows of 32: a table the kernel can look up in a few steps -/
def ATN.index (A : ATN) : List (List ATN) :=
  (List.range 32).map fun i => (List.range 32).map fun j => A.only (32 * i + j)

def ATN.at (A : ATN) (s : Nat) : ATN := ((A.index[s / 32]?).bind (·[s % 32]?)).getD A

def atnMI (A : ATN) (stop : Nat) : ENFA Cfg :=
  { eps := fun c => atnEps (A.at c.1) c, chr := fun c => atnChr (A.at c.1) c, acc := (atnM A stop).acc }

theorem ATN.at_eq (A : ATN) (s : Nat) : A.at s = A ∨ A.at s = A.only s := by
  by_cases h : s / 32 < 32
  · right
    simp [ATN.at, ATN.index, h, Nat.mod_lt, Nat.div_add_mod]
  · left
    simp [ATN.at, ATN.index, h]

theorem filterMap_only {β} (l : List Edge) (s : Nat) (f : Edge → Option β) (hf : ∀ e, e.src ≠ s → f e = none) :
    (l.filter (·.src = s)).filterMap f = l.filterMap f := by
  rw [List.filterMap_filter]
  congr 1; funext e
  by_cases h : e.src = s <;> simp [h, hf e]

theorem atnMI_eq (A : ATN) (stop : Nat) : atnMI A stop = atnM A stop := by
  have hs : ∀ s, (A.stops.filter (· = s)).contains s = A.stops.contains s := by
    intro s; by_cases h : s ∈ A.stops <;> simp [h]
  unfold atnMI atnM
  congr 1 <;> funext c <;> rcases A.at_eq c.1 with h | h <;> rw [h]
  -- both fields: a stop state gives the same answer, otherwise only the edges out of `c.1` pass the `filterMap`
  all_goals
    simp only [atnEps, atnChr, ATN.only, hs]
    split
    · rfl
    · exact filterMap_only _ _ _ fun e he => by cases e <;> simp_all [Edge.src]

def ruleOKFast (M : ENFA Cfg) (re : Regex) (start : Nat) (cls : List (Nat × Nat)) (fuel : Nat) : Bool :=
  let C : Cert (List Regex) Cfg :=
    ⟨explore rxM M cls fuel fuel 0 [(closeList rxM fuel [[re]], closeList M fuel [(start, [])])], cls⟩
  checkCertFast rxM M C &&
  (match C.pairs.head? with
   | some pq => pq.1.contains [re] && pq.2.contains (start, []) &&
       reachesAll rxM [[re]] pq.1 && reachesAll M [(start, [])] pq.2
   | none => false)

theorem ruleOKFast_sound (A : ATN) (re : Regex) (start stop : Nat) (cls : List (Nat × Nat)) (fuel : Nat)
    (h : ruleOKFast (atnMI A stop) re start cls fuel = true) : ruleOK A re start stop cls fuel = true := by
  rw [atnMI_eq] at h
  simp only [ruleOKFast, ruleOK, ruleCert, Bool.and_eq_true] at h ⊢
  refine ⟨checkCertFast_sound h.1, ?_⟩
  split at h
  · next pq hpq =>
    obtain ⟨hc1, hc2⟩ := checkCertFast_closed h.1 (List.mem_of_mem_head? hpq)
    simp only [hpq, Bool.and_eq_true, List.contains_iff_mem] at h ⊢
    obtain ⟨-, ⟨⟨m1, m2⟩, r1⟩, r2⟩ := h
    exact ⟨⟨⟨m1, m2⟩, reachesAll_sound hc1 (by simpa using m1) r1⟩, reachesAll_sound hc2 (by simpa using m2) r2⟩
  · exact absurd h.2 (by simp)

end Rules.NFA
