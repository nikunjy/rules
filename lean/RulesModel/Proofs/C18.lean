import RulesModel.Proofs.C03
import RulesModel.Proofs.C04
import RulesModel.Proofs.C09
/-!
# C18 — Each typed comparison family is a consistent order

`OrderLaws r` for the six answers `r op` on one pair of operands, and monotonicity in the literal (`a lt v`, `v ≤ w` ⇒
`a lt w`; `a gt w`, `v ≤ w` ⇒ `a gt v`), for each family: integers (all of ℤ), decimals (operands not NaN – through
`F64.val` into a linear order), strings (on the lower-cased bytes), versions (of the precedence). Proved for the
functions that transcribe the exported `Operation` methods (direct calls) – hence, by `leafOut`, for the six
single-comparison rules. Not comparable ⇒ all six false (`C03_non_numeric`, `C04_non_string`, `C09_other`: an operand
error is `verdict false`).
-/
namespace Rules
open Rules.F64

structure OrderLaws (r : CmpOp → Bool) : Prop where
  tri : (r .lt = true ∧ r .eq = false ∧ r .gt = false) ∨ (r .lt = false ∧ r .eq = true ∧ r .gt = false) ∨
        (r .lt = false ∧ r .eq = false ∧ r .gt = true)
  ne : r .ne = !r .eq
  le : r .le = (r .lt || r .eq)
  ge : r .ge = (r .gt || r .eq)

theorem OrderLaws.of_relOn {α} [LinearOrder α] {r : CmpOp → Bool} {a b : α}
    (h : ∀ op, r op = true ↔ relOn op a b) : OrderLaws r := by
  have hf (op) : r op = false ↔ ¬ relOn op a b := by rw [← Bool.not_eq_true, h]
  refine ⟨?_, ?_, ?_, ?_⟩
  · simp only [h, hf, relOn]
    rcases lt_trichotomy a b with hab | hab | hab
    · exact .inl ⟨hab, hab.ne, hab.not_gt⟩
    · exact .inr (.inl ⟨hab.not_lt, hab, hab.not_gt⟩)
    · exact .inr (.inr ⟨hab.not_gt, hab.ne', hab⟩)
  · rw [Bool.eq_iff_iff, Bool.not_eq_true', h, hf]; rfl
  · rw [Bool.eq_iff_iff, Bool.or_eq_true, h, h, h]; exact le_iff_lt_or_eq
  · rw [Bool.eq_iff_iff, Bool.or_eq_true, h, h, h]; exact le_iff_lt_or_eq.trans (or_congr_right eq_comm)

theorem C18_int (a n : Int) : OrderLaws (fun op => intRel op a n) :=
  .of_relOn fun op => intRel_iff op a n

theorem C18_int_mono (a v w : Int) (h : v ≤ w) :
    (intRel .lt a v = true → intRel .lt a w = true) ∧ (intRel .gt a w = true → intRel .gt a v = true) := by
  simp only [intRel, decide_eq_true_eq]; constructor <;> intro <;> omega

theorem C18_float (a b : F64) (ha : a.isNaN = false) (hb : b.isNaN = false) : OrderLaws (fun op => floatRel op a b) :=
  .of_relOn fun op => floatRel_iff op a b ha hb

theorem C18_float_mono (a v w : F64) (ha : a.isNaN = false) (hv : v.isNaN = false) (hw : w.isNaN = false)
    (h : val v ≤ val w) :
    (floatRel .lt a v = true → floatRel .lt a w = true) ∧ (floatRel .gt a w = true → floatRel .gt a v = true) := by
  simp only [floatRel, F64.gt, lt_iff a v ha hv, lt_iff a w ha hw, lt_iff w a hw ha, lt_iff v a hv ha]
  exact ⟨fun h1 => lt_of_lt_of_le h1 h, fun h1 => lt_of_le_of_lt h h1⟩

theorem C18_str (a b : Bytes) : OrderLaws (fun op => strRel op a b) :=
  ⟨by simpa only [strRel, beq_iff_eq, beq_eq_false_iff_ne] using bytesLt_trichotomy a b, rfl, rfl, rfl⟩

theorem C18_str_mono (a v w : Bytes) (h : bytesLt v w = true ∨ v = w) :
    (strRel .lt a v = true → strRel .lt a w = true) ∧ (strRel .gt a w = true → strRel .gt a v = true) := by
  simp only [strRel]
  rcases h with h | h
  · exact ⟨fun h1 => bytesLt_trans _ _ _ h1 h, fun h1 => bytesLt_trans _ _ _ h h1⟩
  · subst h; exact ⟨id, id⟩

theorem C18_version (o : Ordering) : OrderLaws (fun op => verRel op o) := by
  cases o <;> constructor <;> decide

/-- monotone in the literal for versions: precedence is transitive (`good_version`) -/
theorem C18_version_mono (a v w : Sv.Version) (h : v.cmp w = .lt ∨ v.cmp w = .eq) :
    (verRel .lt (a.cmp v) = true → verRel .lt (a.cmp w) = true) ∧ (verRel .gt (a.cmp w) = true → verRel .gt (a.cmp v) = true) := by
  simp only [verRel, beq_iff_eq]
  exact Sv.good_version.mono h

theorem OrderLaws.of_ok {R : CmpOp → Bool} {f : CmpOp → OpRes} (L : OrderLaws R)
    (h : ∀ op, isRelational op = true → ∃ c, f op = .ok (R op) c) :
    OrderLaws (fun op => match f op with | .ok b _ => b | _ => false) := by
  have e (op) (hop : isRelational op = true) : (match f op with | .ok b _ => b | _ => false) = R op := by
    obtain ⟨c, hc⟩ := h op hop; rw [hc]
  exact ⟨by simpa only [e .lt rfl, e .eq rfl, e .gt rfl] using L.tri, by simpa only [e .ne rfl, e .eq rfl] using L.ne,
    by simpa only [e .le rfl, e .lt rfl, e .eq rfl] using L.le, by simpa only [e .ge rfl, e .gt rfl, e .eq rfl] using L.ge⟩

/-- the same laws for the six single-comparison rules on one object (integers shown; every family is `of_ok` applied to
its law and to the theorem that says what `apply` returns: `C03_num_dec`, `C04_string_ops`, `C09_precedence_u64`) -/
theorem C18_leaf_int (lower : Bytes → Bytes) (left : Value) (a n : Int) (hl : toIntL left = some a) :
    OrderLaws (fun op => match apply lower .int op left (.int n) with | .ok b _ => b | _ => false) :=
  (C18_int a n).of_ok fun op hop => ⟨[], C03_int_int lower op hop left a n hl⟩

end Rules
