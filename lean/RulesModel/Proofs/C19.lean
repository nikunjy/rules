import RulesModel.Model.NestedError
/-!
# C19 — Nested diagnostic errors keep their cause and their context

On the `NestedError` model (`Model/NestedError.lean`), for every nesting depth and every sequence of `Set` calls:
`Original()` is the innermost non-nested cause (`C19_original`); a second `Error()` returns the same text and leaves the
same error, although the first call writes `err`/`msg` into `Vals` of every layer (`C19_idempotent`); the text is the
JSON object of the attached values (`renderObj`, which sorts the keys) when all are encodable, else `msg: cause`; `Set`
calls merge key by key, later calls overriding earlier ones (`C19_set_override` for two calls; `lookup_merge` is the
single call on any values, from which any sequence follows).
`Error()` terminates on every input – the definition only passed Lean's termination checker with the invariant
that `Error()` does not change the nesting depth.
-/
namespace Rules.NE

def bottom : NE → String
  | .leaf t => t
  | .nest c _ _ => bottom c

theorem C19_original (e : NE) : original e = .leaf (bottom e) := by
  fun_induction original e <;> simp_all [bottom]

def lookup (k : String) : List (String × JVal) → Option JVal
  | [] => none
  | (k', v) :: rest => if k' = k then some v else lookup k rest

def lastBinding (k : String) (new : List (String × JVal)) : Option JVal :=
  new.foldl (fun acc kv => if kv.1 = k then some kv.2 else acc) none

theorem lookup_setKey (k k' : String) (v : JVal) (l : List (String × JVal)) :
    lookup k' (setKey k v l) = if k = k' then some v else lookup k' l := by
  fun_induction setKey k v l with
  | case1 => rfl
  | case2 v₂ rest => simp only [lookup]; split <;> rfl
  | case3 k₂ v₂ rest h ih =>
    simp only [lookup, ih]
    split
    · subst k₂; rw [if_neg (Ne.symm h)]
    · rfl

theorem setKey_of_lookup {k : String} {v : JVal} {l : List (String × JVal)} (h : lookup k l = some v) :
    setKey k v l = l := by
  fun_induction lookup k l with
  | case1 => cases h
  | case2 v' rest => cases h; exact if_pos rfl
  | case3 k' v' rest hk ih => rw [setKey, if_neg hk, ih h]

theorem lookup_merge (k : String) (vals new : List (String × JVal)) :
    lookup k (merge vals new) = new.foldl (fun acc kv => if kv.1 = k then some kv.2 else acc) (lookup k vals) := by
  induction new generalizing vals with
  | nil => rfl
  | cons kv rest ih => have := ih (setKey kv.1 kv.2 vals); rwa [lookup_setKey] at this

/-- **Set overrides key by key**: after `Set(v₁); Set(v₂)` a key has its last binding in `v₂`, else its last binding in
`v₁`, else what it had before. -/
theorem C19_set_override (k : String) (vals v1 v2 : List (String × JVal)) :
    lookup k (merge (merge vals v1) v2) =
      v2.foldl (fun acc kv => if kv.1 = k then some kv.2 else acc)
        (v1.foldl (fun acc kv => if kv.1 = k then some kv.2 else acc) (lookup k vals)) := by
  rw [lookup_merge, lookup_merge]

theorem stamp_idem (e m : JVal) (l : List (String × JVal)) :
    setKey "msg" m (setKey "err" e (setKey "msg" m (setKey "err" e l))) = setKey "msg" m (setKey "err" e l) := by
  rw [setKey_of_lookup (k := "err"), setKey_of_lookup] <;> simp [lookup_setKey]

theorem error_leaf (t : String) : error (.leaf t) = (t, .leaf t) := by
  rw [error, errorAux]

/-- one unfolding of `Error()` on a nested error, as the Go code reads -/
theorem error_nest (c : NE) (msg : String) (vals : List (String × JVal)) :
    error (.nest c msg vals) =
      (let vals' := setKey "msg" (.enc (jsonString msg)) (setKey "err" (.enc (jsonString (error c).1)) vals)
       if encodable vals' then (renderObj vals', .nest (error c).2 msg vals')
       else (msg ++ ": " ++ (error (error c).2).1, .nest (error (error c).2).2 msg vals')) := by
  rw [error, errorAux]
  exact apply_ite Subtype.val _ _ _

/-- What `Error()` returns where the second call on the cause (the fallback branch makes it) returns what the first
did. It always does (`C19_idempotent`, which is proved through this equation): every layer gets `err` and `msg` written
into its values, whichever text comes out. -/
theorem error_nest_of_idem {c : NE} (h : error (error c).2 = error c) (msg : String) (vals : List (String × JVal)) :
    error (.nest c msg vals) =
      (let vals' := setKey "msg" (.enc (jsonString msg)) (setKey "err" (.enc (jsonString (error c).1)) vals)
       (if encodable vals' then renderObj vals' else msg ++ ": " ++ (error c).1, .nest (error c).2 msg vals')) := by
  rw [error_nest, h]
  dsimp only
  split <;> rfl

/-- **Idempotence.** A second `Error()` returns the same text and the same error value as the first. -/
theorem C19_idempotent (e : NE) : error (error e).2 = error e := by
  induction e with
  | leaf t => simp only [error_leaf]
  | nest c msg vals ih =>
    rw [error_nest_of_idem ih, error_nest_of_idem (by rw [ih, ih])]
    simp only [ih, stamp_idem]

theorem C19_error_twice_text (e : NE) : (error (error e).2).1 = (error e).1 := by rw [C19_idempotent]

/-- all attached values (and `err`, `msg`) encodable ⇒ the JSON object with `err` and `msg` stamped in -/
theorem C19_error_json (c : NE) (msg : String) (vals : List (String × JVal))
    (h : encodable (setKey "msg" (.enc (jsonString msg)) (setKey "err" (.enc (jsonString (error c).1)) vals)) = true) :
    (error (.nest c msg vals)).1 =
      renderObj (setKey "msg" (.enc (jsonString msg)) (setKey "err" (.enc (jsonString (error c).1)) vals)) := by
  rw [error_nest_of_idem (C19_idempotent c)]; exact if_pos h

/-- otherwise the plain text `msg: cause` -/
theorem C19_error_fallback (c : NE) (msg : String) (vals : List (String × JVal))
    (h : encodable (setKey "msg" (.enc (jsonString msg)) (setKey "err" (.enc (jsonString (error c).1)) vals)) = false) :
    (error (.nest c msg vals)).1 = msg ++ ": " ++ (error c).1 := by
  rw [error_nest_of_idem (C19_idempotent c)]; exact if_neg (ne_true_of_eq_false h)

/-- `Error()` never changes the cause -/
theorem C19_error_keeps_cause (e : NE) : bottom (error e).2 = bottom e := by
  induction e with
  | leaf t => rw [error_leaf]
  | nest c msg vals ih => rw [error_nest_of_idem (C19_idempotent c)]; exact ih

end Rules.NE
