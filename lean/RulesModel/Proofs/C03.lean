import RulesModel.Proofs.F64Order
import RulesModel.Proofs.Refine
import RulesModel.Proofs.OpsLemmas
/-!
# C03 — Numeric comparisons agree with the mathematical order

`F64.val` sends a non-NaN binary64 to its value in ℚ ∪ {−∞, +∞}; `F64.lt_iff`/`F64.eq_iff` (F64Order.lean) say that the
executable comparisons are the order of that linearly ordered set. The number a decimal literal denotes is the
binary64 value `parseFloatLit` yields (what the engine can hold); the rounding function itself is validated by the
correspondence, not proved – the theorems quantify over the *value*.
-/
namespace Rules
open Rules.P (Tree Lit Kind)
open Rules.F64

def relOn {α} [LinearOrder α] (op : CmpOp) (a b : α) : Prop :=
  match op with
  | .eq => a = b | .ne => a ≠ b | .gt => a > b | .lt => a < b | .ge => a ≥ b | .le => a ≤ b
  | _ => False

theorem intRel_iff (op : CmpOp) (a b : Int) : intRel op a b = true ↔ relOn op a b := by
  cases op <;> simp [intRel, relOn]

/-- integer attribute against integer literal: exact comparison in ℤ (every int64) -/
theorem C03_int_int (lower : Bytes → Bytes) (op : CmpOp) (hop : isRelational op = true) (left : Value) (a n : Int)
    (hl : toIntL left = some a) :
    apply lower .int op left (.int n) = .ok (intRel op a n) [] := by
  simp only [apply, intOp_rel hop, intRelOp_of_some hl, toIntR]

theorem floatRel_iff (op : CmpOp) (a b : F64) (ha : a.isNaN = false) (hb : b.isNaN = false) :
    floatRel op a b = true ↔ relOn op (val a) (val b) := by
  -- every relation is a Boolean combination of `F64.lt` and `F64.eq` (`ne`: not `eq`; `gt`: `lt` swapped; `ge`, `le`: that or
  -- `eq`), which `lt_iff` and `eq_iff` carry to `<` and `=` of the values
  have hne : F64.eq a b = false ↔ val a ≠ val b := by rw [← Bool.not_eq_true, eq_iff a b ha hb]
  cases op <;>
    simp [floatRel, relOn, F64.ne, F64.gt, F64.ge, F64.le, lt_iff, eq_iff, hne, ha, hb, le_iff_lt_or_eq, eq_comm (a := val b)]

/-- float64 attribute against an integer literal with |n| ≤ 2^53 -/
theorem C03_float_int (lower : Bytes → Bytes) (op : CmpOp) (hop : isRelational op = true) (f : F64) (n : Int)
    (hf : f.isNaN = false) (hn : n.natAbs ≤ 2 ^ 53) :
    ∃ b, apply lower .int op (.float f) (.int n) = .ok b [] ∧ (b = true ↔ relOn op (val f) (((n : ℚ) : WithTop ℚ) : EQ)) := by
  refine ⟨floatRel op f (ofInt n), ?_, ?_⟩
  · simp only [apply, intOp_rel hop, intRelOp_float, floatRelOp_eq, toFloatL, toFloatR]
  · rw [floatRel_iff op f (ofInt n) hf (ofInt_not_nan n), val_ofInt n hn]

/-- numeric attribute (float64, or int with |a| ≤ 2^53) against a decimal literal whose value is `v` -/
theorem C03_num_dec (lower : Bytes → Bytes) (op : CmpOp) (hop : isRelational op = true) (left : Value) (l v : F64)
    (hl : toFloatL left = some l) (hln : l.isNaN = false) (hvn : v.isNaN = false) :
    ∃ b, apply lower .float op left (.float v) = .ok b [] ∧ (b = true ↔ relOn op (val l) (val v)) := by
  refine ⟨floatRel op l v, ?_, floatRel_iff op l v hln hvn⟩
  simp only [apply, floatOp_rel hop, floatRelOp_eq, hl, toFloatR]

theorem C03_int_attr_exact (a : Int) (h : a.natAbs ≤ 2 ^ 53) :
    toFloatL (.int a) = some (ofInt a) ∧ val (ofInt a) = (((a : ℚ) : WithTop ℚ) : EQ) := ⟨rfl, val_ofInt a h⟩

/-- NaN is unequal to everything and unordered -/
theorem C03_nan (op : CmpOp) (hop : isRelational op = true) (b : F64) :
    floatRel op .nan b = (op == .ne) := by
  have := nan_unordered b
  cases op <;> cases hop <;> simp [floatRel, F64.ne, F64.gt, F64.ge, F64.le, this]

/-- a non-numeric attribute: every numeric operator is false, without error -/
theorem C03_non_numeric (lower : Bytes → Bytes) (kind : OpKind) (hk : kind = .int ∨ kind = .float) (op : CmpOp)
    (hop : isRelational op = true) (left : Value) (right : ROp)
    (hl : toFloatL left = none) (hi : toIntL left = none) (hnn : left.isNull = false) :
    ∃ c, apply lower kind op left right = .err .invalidOperand c := by
  have he : leftErr left = .invalidOperand := by simp [leftErr, hnn]
  rcases hk with rfl | rfl
  · exact ⟨[], by simp only [apply, intOp_rel hop, intRelOp_of_none hi hl, he]⟩
  · exact ⟨[], by simp only [apply, floatOp_rel hop, floatRelOp_eq, hl, he]⟩

theorem ofDecimal_not_nan (neg : Bool) (d : Nat) (e : Int) (f : F64) (h : ofDecimal neg d e = some f) : f.isNaN = false := by
  rw [ofDecimal] at h
  obtain ⟨-, h⟩ | ⟨-, h⟩ := ite_eq_iff.1 h -- no digit but 0
  · cases h; rfl
  obtain ⟨-, h⟩ | ⟨-, h⟩ := ite_eq_iff.1 h -- overflow
  · cases h
  obtain ⟨-, h⟩ | ⟨-, h⟩ := ite_eq_iff.1 h -- underflow
  · cases h; rfl
  obtain ⟨-, h⟩ | ⟨-, h⟩ := ite_eq_iff.1 h <;> exact roundRat_not_nan _ _ _ _ h

theorem parseFloatLit_not_nan (t : String) (f : F64) (h : parseFloatLit t = some f) : f.isNaN = false := by
  unfold parseFloatLit at h
  split at h
  · cases h
  · exact ofDecimal_not_nan _ _ _ _ h

/-- 2.125 is not equal to 2; 2.0 equals 2; 1.7 is greater than 1 and not equal to it (the statement's examples, on the model) -/
example : floatRel .eq (.fin false 17 (-3)) (ofInt 2) = false ∧ F64.eq (.fin false 2 0) (ofInt 2) = true ∧
    F64.gt (.fin false 7656119366529843 (-52)) (ofInt 1) = true ∧ F64.eq (.fin false 7656119366529843 (-52)) (ofInt 1) = false := by
  decide +kernel

end Rules
