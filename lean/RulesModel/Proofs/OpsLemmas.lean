import RulesModel.Model.Ops
/-!
`Model/Ops.lean` transcribes the Go methods: each relational method matches on the attribute value first (`nil`, and for
`IntOperation` `float64`) and then decodes. The properties speak of the decoders (`toIntL`, `toFloatL`, `getStringL`):
the equations here say what each family returns as a function of what the decoders return, for an arbitrary operator,
so that no property goes through the constructors of `Value` or of `CmpOp`.
-/
namespace Rules

theorem intOp_rel {op : CmpOp} (h : isRelational op = true) (l : Value) (r : ROp) : intOp op l r = intRelOp op l r := by
  cases op <;> cases h <;> rfl

theorem floatOp_rel {op : CmpOp} (h : isRelational op = true) (l : Value) (r : ROp) : floatOp op l r = floatRelOp op l r := by
  cases op <;> cases h <;> rfl

theorem stringOp_rel (lower : Bytes → Bytes) {op : CmpOp} (h : op ≠ .in_) (l : Value) (r : ROp) :
    stringOp lower op l r = strRelOp lower op l r := by
  unfold stringOp
  split
  · exact absurd rfl h
  · rfl

def leftErr (l : Value) : OpErr := if l.isNull then .missing else .invalidOperand

theorem floatRelOp_eq (op : CmpOp) (l : Value) (r : ROp) :
    floatRelOp op l r =
      match toFloatL l, toFloatR r with
      | some a, some b => .ok (floatRel op a b) []
      | some _, none => .err .invalidOperand []
      | none, _ => .err (leftErr l) [] := by
  cases l with
  | int n | float f => simp only [floatRelOp, toFloatL]; cases toFloatR r <;> rfl
  | _ => rfl

theorem intRelOp_float (op : CmpOp) (f : F64) (r : ROp) : intRelOp op (.float f) r = floatRelOp op (.float f) r := rfl

theorem intRelOp_of_some {op : CmpOp} {l : Value} {r : ROp} {a : Int} (hl : toIntL l = some a) :
    intRelOp op l r =
      match toIntR r with
      | some b => .ok (intRel op a b) []
      | none => .err .invalidOperand [] := by
  cases l <;> cases hl <;> (simp only [intRelOp, toIntL]; cases toIntR r <;> rfl)

theorem intRelOp_of_none {op : CmpOp} {l : Value} {r : ROp} (hi : toIntL l = none) (hf : toFloatL l = none) :
    intRelOp op l r = .err (leftErr l) [] := by
  cases l with
  | int n | int32 n | int64 n => cases hi
  | float f => cases hf
  | _ => rfl

theorem strRelOp_eq (lower : Bytes → Bytes) (op : CmpOp) (l : Value) (r : ROp) :
    strRelOp lower op l r =
      match getStringL l with
      | .str a c =>
        match getStringR r with
        | some b => .ok (strRel op (lower a) (lower b)) c
        | none => .err .invalidOperand c
      | .panic c => .panic c
      | .invalid => .err (leftErr l) [] := by
  cases l with
  | str s => simp only [strRelOp, getStringL]; cases getStringR r <;> rfl
  | stringer id beh => cases beh <;> simp only [strRelOp, getStringL]; cases getStringR r <;> rfl
  | _ => rfl

/-- unlike the other families, `VersionOperation` reports a nil left operand as invalid, not as missing -/
theorem versionOp_eq {op : CmpOp} (h : isRelational op = true) (l : Value) (r : ROp) :
    versionOp op l r =
      match l, getStringR r with
      | .str a, some b =>
        match Sv.parse (natBytes a), Sv.parse (natBytes b) with
        | some va, some vb => .ok (verRel op (va.cmp vb)) []
        | _, _ => .err .other []
      | _, _ => .err .invalidOperand [] := by
  unfold versionOp
  split
  any_goals cases h -- `co`, `sw`, `ew`, `in`
  cases l <;> try rfl
  rename_i a
  cases getStringR r with
  | none => rfl
  | some b => dsimp only; cases Sv.parse (natBytes a) <;> cases Sv.parse (natBytes b) <;> rfl

theorem leftErr_ne (l : Value) : leftErr l ≠ .invalidOperation := by
  unfold leftErr; split <;> simp

def okTrue (r : OpRes) : Prop := ∃ c, r = .ok true c
def isOk (r : OpRes) : Prop := ∃ b c, r = .ok b c

/-- the method is defined for this `Operation` type: it does not return `ErrInvalidOperation` -/
def Defined (r : OpRes) : Prop := ∀ c, r ≠ .err .invalidOperation c

@[simp] theorem okTrue_ok {b : Bool} {c : List Nat} : okTrue (.ok b c) ↔ b = true := by simp [okTrue]
@[simp] theorem okTrue_err {e : OpErr} {c : List Nat} : ¬ okTrue (.err e c) := by simp [okTrue]
@[simp] theorem okTrue_panic {c : List Nat} : ¬ okTrue (.panic c) := by simp [okTrue]

theorem addCalls_nil (r : OpRes) : r.addCalls [] = r := by cases r <;> rfl

@[simp] theorem addCalls_okTrue (pre : List Nat) (r : OpRes) : okTrue (r.addCalls pre) ↔ okTrue r := by
  cases r <;> simp [OpRes.addCalls]

theorem Defined.addCalls {r : OpRes} (h : Defined r) (pre : List Nat) : Defined (r.addCalls pre) := by
  cases r <;> simp_all [Defined, OpRes.addCalls]

theorem floatRelOp_defined (op : CmpOp) (l : Value) (r : ROp) : Defined (floatRelOp op l r) := by
  intro c; rw [floatRelOp_eq]; split <;> simp [leftErr_ne]

theorem intRelOp_defined (op : CmpOp) (l : Value) (r : ROp) : Defined (intRelOp op l r) := by
  intro c
  cases l with
  | float f => exact floatRelOp_defined op (.float f) r c
  | int a | int32 a | int64 a => rw [intRelOp_of_some (a := a) rfl]; split <;> simp
  | _ => rw [intRelOp_of_none rfl rfl]; simp [leftErr_ne]

theorem strRelOp_defined (lower : Bytes → Bytes) (op : CmpOp) (l : Value) (r : ROp) : Defined (strRelOp lower op l r) := by
  intro c; rw [strRelOp_eq]; split <;> (try split) <;> simp [leftErr_ne]

theorem versionOp_defined {op : CmpOp} (h : isRelational op = true) (l : Value) (r : ROp) : Defined (versionOp op l r) := by
  intro c; rw [versionOp_eq h]; split <;> (try split) <;> simp

/-- `for _, v := range list { ok, err := o.EQ(left, v); … }`: the first element that is equal or fails decides -/
def inLoop {β} (f : β → OpRes) : List β → OpRes
  | [] => .ok false []
  | x :: rest =>
    match f x with
    | .ok true c => .ok true c
    | .ok false c => (inLoop f rest).addCalls c
    | r => r

theorem strInLoop_eq (lower : Bytes → Bytes) (l : Value) (vs : List Bytes) :
    strInLoop lower l vs = inLoop (fun v => strRelOp lower .eq l (.str v)) vs := by
  fun_induction strInLoop lower l vs <;> simp [inLoop, *]

theorem intInLoop_eq (l : Value) (ns : List Int) :
    intInLoop l ns = inLoop (fun n => intRelOp .eq l (.int n)) ns := by
  -- `IntOperation.EQ` asks no Stringer: there are no calls to carry over
  have pure (n b c) : intRelOp .eq l (.int n) = .ok b c → c = [] := by
    cases l <;> simp [intRelOp, floatRelOp, toIntL, toIntR, toFloatL, toFloatR]
  fun_induction intInLoop l ns with
  | case3 n rest c h ih => cases pure _ _ _ h; simp [inLoop, h, ih, addCalls_nil]
  | _ => simp [inLoop, *]

theorem inLoop_okTrue_iff {β} (f : β → OpRes) (h : ∀ x y, isOk (f x) → isOk (f y)) (xs : List β) :
    okTrue (inLoop f xs) ↔ ∃ x ∈ xs, okTrue (f x) := by
  fun_induction inLoop f xs with
  | case1 => simp
  | case2 x rest c hx => simp [hx]
  | case3 x rest c hx ih => simp [hx, ih]
  | case4 x rest hT hF =>
    -- `f x` is not a verdict, so no `f y` is
    have hx : ¬ isOk (f x) := by
      rintro ⟨_ | _, c, hb⟩
      · exact hF c hb
      · exact hT c hb
    simp only [List.mem_cons, exists_eq_or_imp, iff_self_or]
    exact fun ⟨y, _, c, hy⟩ => absurd (h y x ⟨_, _, hy⟩) hx

theorem inLoop_defined {β} (f : β → OpRes) (hf : ∀ x, Defined (f x)) (xs : List β) : Defined (inLoop f xs) := by
  fun_induction inLoop f xs with
  | case1 => simp [Defined]
  | case2 x rest c h => exact h ▸ hf x
  | case3 x rest c h ih => exact ih.addCalls c
  | case4 x rest _ _ => exact hf x

theorem intInLoop_defined (left : Value) (l : List Int) : Defined (intInLoop left l) := by
  rw [intInLoop_eq]
  exact inLoop_defined _ (fun n => intRelOp_defined .eq left (.int n)) l

theorem strInLoop_defined (lower : Bytes → Bytes) (left : Value) (l : List Bytes) : Defined (strInLoop lower left l) := by
  rw [strInLoop_eq]
  exact inLoop_defined _ (fun v => strRelOp_defined lower .eq left (.str v)) l

end Rules
