import RulesModel.Model.Grammar
/-!
The parser run forward, for `ParseComplete`: what each parsing function returns on input that begins in a given way.
A head token of known kind makes the functions compute, so most equations hold by `rfl`.
-/
namespace Rules.P

def takeOpt (k : Kind) : List Tok → Option String × List Tok
  | ⟨k1, t⟩ :: rest => if k1 = k then (some t, rest) else (none, ⟨k1, t⟩ :: rest)
  | [] => (none, [])

theorem eatOpt_eq (k : Kind) (ts : List Tok) : eatOpt k ts = ((takeOpt k ts).1.isSome, (takeOpt k ts).2) := by
  match ts with
  | [] => rfl
  | ⟨k1, t⟩ :: rest => by_cases h : k1 = k <;> simp [eatOpt, takeOpt, h]

def NotHead (k : Kind) (rest : List Tok) : Prop := ∀ t r, rest ≠ ⟨k, t⟩ :: r

theorem NotHead.cons {k k' : Kind} (h : k' ≠ k) (t : String) (r : List Tok) : NotHead k (⟨k', t⟩ :: r) := by
  intro t' r' e; cases e; exact h rfl

theorem takeOpt_optTok {k : Kind} (o : Option String) {rest : List Tok} (h : NotHead k rest) :
    takeOpt k (optTok k o ++ rest) = (o, rest) := by
  cases o with
  | some t => simp [optTok, takeOpt]
  | none =>
    match rest, h with
    | [], _ => rfl
    | ⟨k1, t⟩ :: r, h =>
      have : k1 ≠ k := by rintro rfl; exact h t r rfl
      simp [optTok, takeOpt, this]

theorem parseValue_long (m : Option String) (i : String) (r : List Tok) :
    parseValue (optTok MINUS m ++ ⟨INT, i⟩ :: r) = some (.long m.isSome i (takeOpt EXP r).1, (takeOpt EXP r).2) := by
  cases m <;> match r with
  | [] => rfl
  | ⟨k, e⟩ :: r => by_cases h : k = EXP <;> simp [optTok, parseValue, takeOpt, h] <;> rfl

theorem parseValue_list (b : String) (k : Kind) (t : String) (r : List Tok) :
    parseValue (⟨LB, b⟩ :: ⟨k, t⟩ :: r) =
      if k = INT ∨ k = DOUBLE ∨ k = STRING then
        (match parseList k (⟨k, t⟩ :: r) with | some (xs, r') => some (.list k xs, r') | none => none)
      else none := rfl

theorem parsePrim_paren (f : Nat) (n s1 : Option String) (l : String) (ts : List Tok) :
    parsePrim (f + 1) (optTok NOT n ++ optTok SP s1 ++ ⟨LP, l⟩ :: ts) =
      match parseQuery f (takeOpt SP ts).2 with
      | none => none
      | some (q, ts') =>
        match (takeOpt SP ts').2 with
        | ⟨k, _⟩ :: rest => if k = RP then some (.paren n.isSome q, rest) else none
        | [] => none := by
  have h1 : takeOpt NOT (optTok NOT n ++ optTok SP s1 ++ ⟨LP, l⟩ :: ts) = (n, optTok SP s1 ++ ⟨LP, l⟩ :: ts) := by
    rw [List.append_assoc]; apply takeOpt_optTok
    cases s1 <;> exact .cons (by decide) _ _
  have h2 := takeOpt_optTok (k := SP) s1 (.cons (k' := LP) (by decide) l ts)
  simp only [parsePrim, eatOpt_eq, h1, h2, if_true]
  rfl

theorem parsePrim_present (f : Nat) {a : String} {r : List Tok} {p s pr rest}
    (hp : parsePath (⟨ATTR, a⟩ :: r) = some (p, ⟨SP, s⟩ :: ⟨PR, pr⟩ :: rest)) :
    parsePrim (f + 1) (⟨ATTR, a⟩ :: r) = some (.present p, rest) := by
  simp only [ATTR, SP, PR] at hp
  simp [parsePrim, eatOpt, ATTR, NOT, SP, LP, PR, hp]

theorem parsePrim_compare (f : Nat) {a : String} {r : List Tok} {p s1 k o s2 r3 v rest}
    (hp : parsePath (⟨ATTR, a⟩ :: r) = some (p, ⟨SP, s1⟩ :: ⟨k, o⟩ :: ⟨SP, s2⟩ :: r3)) (hk : isCmp k = true)
    (hv : parseValue r3 = some (v, rest)) :
    parsePrim (f + 1) (⟨ATTR, a⟩ :: r) = some (.compare p k v, rest) := by
  have : k ≠ PR := by rintro rfl; cases hk
  simp only [ATTR, SP, PR] at hp this
  simp [parsePrim, eatOpt, ATTR, NOT, SP, LP, PR, hp, this, hk, hv]

end Rules.P
