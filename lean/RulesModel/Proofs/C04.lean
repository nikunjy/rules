import RulesModel.Proofs.Refine
import RulesModel.Proofs.OpsLemmas
/-!
# C04 — String comparisons are case-insensitive and otherwise exact

For **every** lower-casing function `lower` (instantiated by the driver with Go's `strings.ToLower`): for a string
attribute or a Stringer returning `a`, and a quoted literal with body `b`, each of the nine operators is
`strRel op (lower a) (lower b)` (`C04_string_ops`); a non-string attribute makes every string operator false, without
error (`C04_non_string`). The rest of the file shows that `strRel` is what its names say: the lexicographic order on
bytes, prefix, infix, suffix.
-/
namespace Rules
open Rules.P (Tree Lit Kind)

theorem C04_string_ops (lower : Bytes → Bytes) (op : CmpOp) (hop : op ≠ .in_) (left : Value) (a : Bytes) (c : List Nat)
    (hl : getStringL left = .str a c) (b : Bytes) :
    apply lower .string op left (.str b) = .ok (strRel op (lower a) (lower b)) c := by
  simp only [apply, stringOp_rel lower hop, strRelOp_eq, hl, getStringR]

/-- the Stringer is asked for its text exactly once per comparison -/
theorem C04_stringer_once (lower : Bytes → Bytes) (op : CmpOp) (hop : op ≠ .in_) (id : Nat) (a b : Bytes) :
    apply lower .string op (.stringer id (.ret a)) (.str b) = .ok (strRel op (lower a) (lower b)) [id] :=
  C04_string_ops lower op hop _ a [id] rfl b

theorem bytesOf_append (a b : String) : bytesOf (a ++ b) = bytesOf a ++ bytesOf b := by
  simp [bytesOf, String.toUTF8]

theorem bytesOf_quote : bytesOf "\"" = [34] := by decide

/-- **The literal denotes exactly the characters between its quotes.** -/
theorem C04_literal_body (body : String) : getStringLit ("\"" ++ body ++ "\"") = bytesOf body := by
  simp only [getStringLit, bytesOf_append, bytesOf_quote]
  -- longer than its two quotes, or the body is empty
  split
  · simp
  · next h => simp at h; simp [h]

theorem C04_non_string (lower : Bytes → Bytes) (op : CmpOp) (hop : op ≠ .in_) (left : Value)
    (hl : getStringL left = .invalid) (b : Bytes) :
    ∃ e, apply lower .string op left (.str b) = .err e [] ∧ e ≠ .invalidOperation :=
  ⟨leftErr left, by simp only [apply, stringOp_rel lower hop, strRelOp_eq, hl], leftErr_ne left⟩

theorem bytesLt_iff (a b : Bytes) : bytesLt a b = true ↔ a < b := by
  fun_induction bytesLt a b with
  | case4 x xs y ys h => simp [List.cons_lt_cons_iff, h]
  | case5 x xs y ys h h' => simp [List.cons_lt_cons_iff, h, (UInt8.ne_of_lt h').symm]
  | case6 x xs y ys h h' ih =>
    obtain rfl : x = y := UInt8.le_antisymm (UInt8.not_lt.1 h') (UInt8.not_lt.1 h)
    simp [ih]
  | _ => simp

theorem bytesLt_trichotomy (a b : Bytes) :
    (bytesLt a b = true ∧ a ≠ b ∧ bytesLt b a = false) ∨ (bytesLt a b = false ∧ a = b ∧ bytesLt b a = false) ∨
    (bytesLt a b = false ∧ a ≠ b ∧ bytesLt b a = true) := by
  simp only [← Bool.not_eq_true, bytesLt_iff]
  by_cases h1 : a < b
  · exact .inl ⟨h1, fun e => List.lt_irrefl _ (e ▸ h1), List.lt_asymm h1⟩
  · by_cases h2 : b < a
    · exact .inr (.inr ⟨h1, fun e => List.lt_irrefl _ (e ▸ h2), h2⟩)
    · exact .inr (.inl ⟨h1, List.le_antisymm h2 h1, h2⟩)

theorem bytesLt_trans (a b c : Bytes) (h1 : bytesLt a b = true) (h2 : bytesLt b c = true) : bytesLt a c = true := by
  rw [bytesLt_iff] at *; exact List.lt_trans h1 h2

theorem isPrefixB_iff_prefix (r l : Bytes) : isPrefixB r l = true ↔ r <+: l := by
  fun_induction isPrefixB r l <;> simp [*]

theorem isPrefixB_iff (r l : Bytes) : isPrefixB r l = true ↔ ∃ t, l = r ++ t :=
  (isPrefixB_iff_prefix r l).trans (exists_congr fun _ => eq_comm)

theorem containsB_iff_infix (l r : Bytes) : containsB l r = true ↔ r <:+: l := by
  induction l with
  | nil => simp [containsB]
  | cons x xs ih => simp [containsB, List.infix_cons_iff, isPrefixB_iff_prefix, ih]

theorem containsB_iff (l r : Bytes) : containsB l r = true ↔ ∃ p s, l = p ++ r ++ s :=
  (containsB_iff_infix l r).trans (exists_congr fun _ => exists_congr fun _ => eq_comm)

/-- `ew`: the literal is a suffix of the attribute -/
theorem suffix_iff (r l : Bytes) : isPrefixB r.reverse l.reverse = true ↔ ∃ t, l = t ++ r := by
  rw [isPrefixB_iff_prefix, List.reverse_prefix]; exact exists_congr fun _ => eq_comm

/-- non-vacuity (case matters only through `lower`; infix but not prefix) -/
example : strRel .co [97, 98, 99] [98] = true ∧ strRel .sw [97, 98, 99] [98] = false ∧ strRel .ew [97, 98, 99] [99] = true := by decide

end Rules
