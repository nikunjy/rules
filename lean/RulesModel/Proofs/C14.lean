import RulesModel.Proofs.Refine
/-!
# C14 — All entry points give the same answer

In the model the three entry points are the three wrappers of `evaluate.go` (root and parser package); the
theorems are short – the weight of C14 is the side-by-side correspondence on the implementation.
-/
namespace Rules
open Rules.P (Tree Kind)

/-- `rules.Evaluate` = `NewEvaluator` followed by `Process` (verdict and error) -/
theorem C14_rules_evaluate (rules : List (Kind × Regex)) (lower : Bytes → Bytes) (text : List Char) (item : List (Bytes × Value)) :
    rulesEvaluate rules lower text item = ((newEvaluator rules text).process lower item).2 := rfl

/-- `parser.Evaluate` returns that verdict -/
theorem C14_parser_evaluate (rules : List (Kind × Regex)) (lower : Bytes → Bytes) (text : List Char) (item : List (Bytes × Value)) :
    parserEvaluate rules lower text item = (rulesEvaluate rules lower text item).verdict := rfl

theorem process_of_none {e : Evaluator} (h : e.tree = none) (lower : Bytes → Bytes) (item : List (Bytes × Value)) :
    (e.process lower item).2 = syntaxOut := by
  unfold Evaluator.process Evaluator.processWith; rw [h]

theorem process_of_some {e : Evaluator} {t : Tree} (h : e.tree = some t) (lower : Bytes → Bytes) (item : List (Bytes × Value)) :
    (e.process lower item).2 = toProc (evalOut lower item t) := by
  unfold Evaluator.process Evaluator.processWith; rw [h]; exact processTree_eq lower t item

/-- whenever an error is reported the verdict is false (Process on any evaluator, hence all entry points) -/
theorem C14_error_false (lower : Bytes → Bytes) (e : Evaluator) (item : List (Bytes × Value)) :
    (e.process lower item).2.err ≠ none → (e.process lower item).2.verdict = false := by
  cases h : e.tree with
  | none => rw [process_of_none h]; exact fun _ => rfl
  | some t =>
    rw [process_of_some h]; unfold toProc
    cases (evalOut lower item t).res <;> simp

theorem C14_rules_error_false (rules : List (Kind × Regex)) (lower : Bytes → Bytes) (text : List Char) (item : List (Bytes × Value)) :
    (rulesEvaluate rules lower text item).err ≠ none → parserEvaluate rules lower text item = false :=
  C14_error_false lower (newEvaluator rules text) item

end Rules
