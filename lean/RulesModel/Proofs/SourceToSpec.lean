import RulesModel.Proofs.EndToEnd
import RulesModel.Proofs.VisitorGen
import RulesModel.Proofs.OpsGen
/-!
From the Go source text to the compositional semantics, in one statement. The chain

  rule text ─trim, lex (regenerated token table), parse (= grammar relation `D`)─► tree `t` = `abs c` of a parse tree `c`
  `c`, object ─translated `Visit…` methods (`genProcessWith ops`)─► outcome   with `ops` = what `currentOperation.<OP>` runs

ends in `toProc (evalOut lower item t)`, the Spec layer the property theorems about evaluation are stated about.
-/
namespace Rules
open Rules.P (Tree Kind)
open Rules.Cst (QueryCtx abs)

/-- **Every rule text, every object.** Either the trimmed text is not a sentence of the grammar and the outcome is the
syntax error; or it lexes and parses to a tree `t`, `t` is the abstraction of an ANTLR-shaped parse tree `c`, and the
visitor *as translated from the Go source on this run*, run on `c` through the transcription of `Process` with any
implementation `ops` of the operations that agrees with the model's table on the calls made, returns the observable of
the compositional outcome of `t` – which is also what the model's `rules.Evaluate` returns. -/
theorem source_to_spec (rules : List (Kind × Regex)) (lower : Bytes → Bytes) (text : List Char) (item : List (Bytes × Value)) :
    (¬ Sentence rules (trimSpace text) ∧ rulesEvaluate rules lower text item = syntaxOut) ∨
    (∃ ts t c, lex rules (trimSpace text) = some ts ∧ P.D false (ts.map toTok) t ∧ abs c = t ∧
        rulesEvaluate rules lower text item = toProc (evalOut lower item t) ∧
        ∀ ops, VisitorGen.Agrees lower ops → VisitorGen.genProcessWith ops c item = toProc (evalOut lower item t)) := by
  rcases rulesEvaluate_total rules lower text item with h | ⟨ts, t, hl, hd, he⟩
  · exact .inl h
  · obtain ⟨c, rfl⟩ := VisitorGen.exists_cst hd
    exact .inr ⟨ts, _, c, hl, hd, rfl, he, fun ops hops => by rw [VisitorGen.genProcessWith_eq lower ops hops, processTree_eq]⟩

/-- **Every Operation call of that evaluation.** Whenever the model's visitor has walked a path and visited a literal
from the state `VisitCompareExp` starts in, the method Go selects for `currentOperation.<OP>` – as translated from the Go
source on this run, with method promotion – returns exactly what the model's `apply` returns: verdict, error class and
the Stringer calls in order (or panics with the same calls). -/
theorem every_operation_call_translated (lower : Bytes → Bytes) (s s1 s2 : VState) (path : List String) (lit : P.Lit)
    (hs : s.rightOp = .nil) (hp : visitAttrPath s path = .ok s1) (hv : visitLit s1 lit = .ok s2)
    (k : OpKind) (hk : s2.curOp = some k) (op : CmpOp) (w : Go.W) :
    GenOps.dispatch lower k op (Go.GoVal.ofV s2.leftOp) (Go.GoVal.ofR s2.rightOp) w
      = Go.embed w (apply lower k op s2.leftOp s2.rightOp) :=
  OpsGen.ops_translated lower s1 s2 lit ((congrArg VState.rightOp (visitAttrPath_frame s path s1 hp)).trans hs) hv k hk op w

end Rules
