import RulesModel.Proofs.C15Sentences
import RulesModel.Proofs.C15SignedTable
/-!
# String literals are closed, for the table regenerated from JsonQuery.g4

`str_prefix_free`: nothing can be appended to a complete string literal (a deterministic scanner strips the elements of a
literal body one by one, so a body cannot continue across an unescaped quote). With the classification `table_facts` of the
table - the only rule of kind STRING is `strRe`, every other rule is dead after a quote - every string literal the lexer can
produce is taken whole whatever follows (`closed_of_facts`, for any table that passes the classification).
-/
namespace Rules.StrClosed
open Rules Rules.Regex

def hexRe : Regex := .alt (.range 48 57) (.alt (.range 97 102) (.range 65 70))
def escRe : Regex := .seq (.range 92 92) (.alt (.alt (.range 34 34) (.alt (.range 92 92) (.alt (.range 47 47) (.alt (.range 98 98) (.alt (.range 102 102) (.alt (.range 110 110) (.alt (.range 114 114) (.range 116 116)))))))) (.seq (.range 117 117) (.seq hexRe (.seq hexRe (.seq hexRe hexRe)))))
def elemRe : Regex := .alt escRe (.notIn [34, 92])
def strRe : Regex := .seq (.range 34 34) (.seq (.star elemRe) (.range 34 34))

def isHex (c : Char) : Bool := (48 ≤ c.toNat && c.toNat ≤ 57) || (97 ≤ c.toNat && c.toNat ≤ 102) || (65 ≤ c.toNat && c.toNat ≤ 70)
def isEsc1 (c : Char) : Bool := [34, 92, 47, 98, 102, 110, 114, 116].contains c.toNat

/-- strip one element of a string body from the front (deterministic) -/
def scan : List Char → Option (List Char)
  | c :: rest =>
    if c.toNat = 92 then
      match rest with
      | e :: rest2 =>
        if isEsc1 e then some rest2
        else if e.toNat = 117 then
          match rest2 with
          | h1 :: h2 :: h3 :: h4 :: rest3 => if isHex h1 && isHex h2 && isHex h3 && isHex h4 then some rest3 else none
          | _ => none
        else none
      | [] => none
    else if c.toNat = 34 then none
    else some rest
  | [] => none

theorem hex_of_matches {s : List Char} (h : Matches hexRe s) : ∃ c, s = [c] ∧ isHex c = true := by
  simp only [hexRe, matches_alt_iff, matches_range_iff] at h
  rcases h with ⟨c, rfl, h1, h2⟩ | ⟨c, rfl, h1, h2⟩ | ⟨c, rfl, h1, h2⟩ <;> exact ⟨c, rfl, by simp [isHex, h1, h2]⟩

theorem scan_of_elem {x : List Char} (h : Matches elemRe x) (r : List Char) : scan (x ++ r) = some r := by
  simp only [elemRe, escRe, matches_alt_iff, matches_seq_iff, matches_char_iff, matches_notIn_iff] at h
  rcases h with ⟨s1, s2, rfl, ⟨b, rfl, hb⟩, h2⟩ | ⟨c, rfl, hc⟩
  · rcases h2 with h2 | ⟨u1, u2, rfl, ⟨u, rfl, hu⟩, v1, v2, rfl, hh1, w1, w2, rfl, hh2, x1, x2, rfl, hh3, hh4⟩
    · -- one of the eight single escape characters
      obtain ⟨e, rfl, he⟩ : ∃ e, s2 = [e] ∧ isEsc1 e = true := by
        rcases h2 with ⟨e, rfl, he⟩ | ⟨e, rfl, he⟩ | ⟨e, rfl, he⟩ | ⟨e, rfl, he⟩ | ⟨e, rfl, he⟩ | ⟨e, rfl, he⟩ | ⟨e, rfl, he⟩ | ⟨e, rfl, he⟩ <;>
          exact ⟨e, rfl, by rw [isEsc1, he]; rfl⟩
      simp [scan, hb, he]
    · obtain ⟨a1, rfl, g1⟩ := hex_of_matches hh1
      obtain ⟨a2, rfl, g2⟩ := hex_of_matches hh2
      obtain ⟨a3, rfl, g3⟩ := hex_of_matches hh3
      obtain ⟨a4, rfl, g4⟩ := hex_of_matches hh4
      have hne : isEsc1 u = false := by rw [isEsc1, hu]; rfl
      simp [scan, hb, hu, hne, g1, g2, g3, g4]
  · simp only [List.mem_cons, List.mem_nil_iff, or_false, not_or] at hc
    simp [scan, hc.1, hc.2]

theorem elem_ne_nil {x : List Char} (h : Matches elemRe x) : x ≠ [] := by
  rintro rfl
  simpa [scan] using scan_of_elem h []

/-- stripping the first element of a body is deterministic -/
theorem strip {x rest : List Char} (hx : Matches elemRe x) (h : Matches (.star elemRe) (x ++ rest)) :
    Matches (.star elemRe) rest := by
  obtain ⟨c, x', rfl⟩ := List.exists_cons_of_ne_nil (elem_ne_nil hx)
  obtain ⟨s1, s2, he, h1, h2⟩ := star_cons_inv (by simpa using h)
  have e1 := scan_of_elem hx rest
  rw [show (c :: x') ++ rest = (c :: s1) ++ s2 by simp [he], scan_of_elem h1 s2] at e1
  cases e1
  exact h2

theorem not_quote_first {q : Char} {u : List Char} (hq : q.toNat = 34) : ¬ Matches (.star elemRe) (q :: u) := by
  intro h
  obtain ⟨s1, s2, _, h1, _⟩ := star_cons_inv h
  simpa [scan, hq] using scan_of_elem h1 []

theorem body_no_quote' {b : List Char} (hb : Matches (.star elemRe) b) (q : Char) (u : List Char) (hq : q.toNat = 34) :
    ¬ Matches (.star elemRe) (b ++ q :: u) := by
  generalize hr : Regex.star elemRe = r at hb
  induction hb with
  | starNil => cases hr; exact not_quote_first hq
  | @starCons a x t hx _ _ ih => cases hr; exact fun h => ih rfl (strip hx (by simpa using h))
  | _ => cases hr

theorem body_no_quote : ∀ (n : Nat) (b : List Char), b.length ≤ n → Matches (.star elemRe) b →
    ∀ (q : Char) (u : List Char), q.toNat = 34 → ¬ Matches (.star elemRe) (b ++ q :: u) :=
  fun _ _ _ hm => body_no_quote' hm

theorem str_shape {w : List Char} (h : Matches strRe w) :
    ∃ q1 b q2, w = q1 :: (b ++ [q2]) ∧ q1.toNat = 34 ∧ q2.toNat = 34 ∧ Matches (.star elemRe) b := by
  simp only [strRe, matches_seq_iff, matches_char_iff] at h
  obtain ⟨s1, s2, rfl, ⟨q1, rfl, h1⟩, b, s3, rfl, hb, q2, rfl, h2⟩ := h
  exact ⟨q1, b, q2, by simp, h1, h2, hb⟩

theorem str_prefix_free {w u : List Char} (hw : Matches strRe w) (hu : u ≠ []) : ¬ Matches strRe (w ++ u) := by
  intro h
  obtain ⟨q1, b, q2, rfl, _, hq2, hb⟩ := str_shape hw
  obtain ⟨p1, b', p2, he, _, _, hb'⟩ := str_shape h
  obtain ⟨u', x, rfl⟩ := (List.eq_nil_or_concat u).resolve_left hu
  have he2 : b ++ q2 :: u' ++ [x] = b' ++ [p2] := by simpa using (List.cons.inj he).2
  rw [← (List.append_inj' he2 rfl).1] at hb'
  exact body_no_quote' hb q2 u' hq2 hb'

theorem table_facts :
    Generated.lexerRules.all (fun kr => (kr.2 == strRe || (kr.2.deriv (Char.ofNat 34)).isEmpty) && (kr.1 != 24 || kr.2 == strRe)) = true := by
  decide +kernel

/-- no rule matches a proper extension of a string literal: the STRING rule because its language is prefix-free, the others
because they are dead after the opening quote -/
theorem closed_of_facts (rules : List (Kind × Regex))
    (hf : rules.all (fun kr => (kr.2 == strRe || (kr.2.deriv (Char.ofNat 34)).isEmpty) && (kr.1 != 24 || kr.2 == strRe)) = true)
    (x : Token) (hc : Canon rules x) (hk : x.kind = P.STRING) : ClosedP rules x.text := by
  have facts : ∀ kr ∈ rules, (kr.2 = strRe ∨ (kr.2.deriv (Char.ofNat 34)).isEmpty = true) ∧ (kr.1 ≠ 24 ∨ kr.2 = strRe) := by
    simpa only [List.all_eq_true, Bool.and_eq_true, Bool.or_eq_true, beq_iff_eq, bne_iff_ne] using hf
  obtain ⟨kx, hkx, e1, hw⟩ := hc.rule
  rw [(facts kx hkx).2.resolve_left (· (e1.trans hk))] at hw
  refine closedP_of_sem _ _ fun kr hkr u hu hm => ?_
  rcases (facts kr hkr).1 with he | hd
  · exact str_prefix_free hw hu (he ▸ hm)
  · obtain ⟨q1, b, q2, e, hq1, _, _⟩ := str_shape hw
    rw [e, Char.toNat_inj.1 (show q1.toNat = (Char.ofNat 34).toNat from hq1)] at hm
    exact isEmpty_sound _ hd _ ((deriv_iff kr.2 (Char.ofNat 34) _).2 (by simpa using hm))

theorem string_tokens_closed (x : Token) (hc : Canon Generated.lexerRules x) (hk : x.kind = P.STRING) :
    ClosedP Generated.lexerRules x.text :=
  closed_of_facts _ table_facts x hc hk
end Rules.StrClosed

namespace Rules.Render
open Rules.P Rules

theorem table_ok : TableOK Generated.lexerRules := ⟨adj_separated_all, int_follow, Signed.signed_ok⟩

/-- `C15_render_generated` without hypothesis about the table -/
theorem C15_render_all (t : Tree) (h : wf Generated.lexerRules (extClosed Generated.lexerRules) t = true) (sty : Sty) :
    lexParse Generated.lexerRules (text (render sty [] t)) = some t :=
  C15_render_generated Signed.signed_ok t h sty

/-- **C15 for every sentence of the shipped grammar.** For every rule text `s` the grammar accepts - negative integers and
integers with exponents included -, every rendering of its tree - any spelling of `not` and of the ten operators, optional
blanks, newlines after blanks, blanks after commas, all chosen by an arbitrary style function - is read back as the same
tree. No hypothesis about individual names, numbers or string literals is left. -/
theorem C15_sentences_generated (s : List Char) (ts : List Token) (t : Tree)
    (hl : lex Generated.lexerRules s = some ts) (hpar : P.parse (ts.map toTok) = some t) (sty : Sty) :
    lexParse Generated.lexerRules (text (render sty [] t)) = some t :=
  C15_sentences Generated.lexerRules table_ok spell_table StrClosed.string_tokens_closed s ts t hl hpar sty

/-- … and any two such renderings evaluate alike on every object (verdict, error, diagnostic, Stringer calls) -/
theorem C15_sentences_generated_process (s : List Char) (ts : List Token) (t : Tree)
    (hl : lex Generated.lexerRules s = some ts) (hpar : P.parse (ts.map toTok) = some t)
    (sty sty' : Sty) (lower : Bytes → Bytes) (item : List (Bytes × Value)) :
    (lexParse Generated.lexerRules (text (render sty [] t))).map (fun tr => processTree lower tr item) =
    (lexParse Generated.lexerRules (text (render sty' [] t))).map (fun tr => processTree lower tr item) := by
  rw [C15_sentences_generated s ts t hl hpar sty, C15_sentences_generated s ts t hl hpar sty']

/-- non-vacuity: a rule text with escapes, blanks and parentheses inside string literals, a list and a nested path satisfies
the hypotheses, and its rendering in another style is a different text that reads back as the same tree -/
example :
    let s := "not (name eq \"a) \\\" (b\" and x.y in [\"p q\", \"r\"]) or n ge -10e+3 and (m lt 7E+0)".toList
    (match lex Generated.lexerRules s with
     | some ts => (match P.parse (ts.map toTok) with
       | some t => (text (render (fun p => p.length + 1) [] t) != s) &&
                   (lexParse Generated.lexerRules (text (render (fun p => p.length + 1) [] t)) == some t)
       | none => false)
     | none => false) = true := by
  simp only [toList_eq_chars]
  decide +kernel
end Rules.Render
