import RulesModel.Proofs.ParseComplete
import RulesModel.Proofs.C14
/-!
# C05 — Malformed rules are rejected, never partially evaluated

If the trimmed text is not a sentence (lexed by the token table into tokens that the grammar relation `D` derives), then
for **every** object all three entry points report the syntax error with verdict false, `parser.Evaluate` returning
false (`C05_only_sentences`); conversely an outcome without error implies the trimmed text is a sentence
(`C05_verdict_sentence`). The token table is a parameter: the driver instantiates it with the table regenerated from
JsonQuery.g4.
-/
namespace Rules
open Rules.P (Tree Kind)

theorem lexParse_eq_some_iff {rules : List (Kind × Regex)} {s : List Char} {t : Tree} :
    lexParse rules s = some t ↔ ∃ ts, lex rules s = some ts ∧ P.D false (ts.map toTok) t := by
  unfold lexParse
  cases lex rules s <;> simp [P.parse_iff]

theorem lexParse_iff (rules : List (Kind × Regex)) (s : List Char) :
    (∃ t, lexParse rules s = some t) ↔ Sentence rules s := by
  simp only [lexParse_eq_some_iff, Sentence]
  exact exists_comm

theorem C05_only_sentences (rules : List (Kind × Regex)) (lower : Bytes → Bytes) (text : List Char)
    (h : ¬ Sentence rules (trimSpace text)) (item : List (Bytes × Value)) :
    rulesEvaluate rules lower text item = syntaxOut ∧
    ((newEvaluator rules text).process lower item).2 = syntaxOut ∧
    parserEvaluate rules lower text item = false := by
  have hn : (newEvaluator rules text).tree = none :=
    Option.eq_none_iff_forall_ne_some.2 fun t hp => h ((lexParse_iff rules _).1 ⟨t, hp⟩)
  have hs := process_of_none hn lower item
  exact ⟨hs, hs, congrArg ProcOut.verdict hs⟩

theorem C05_verdict_sentence (rules : List (Kind × Regex)) (lower : Bytes → Bytes) (text : List Char)
    (item : List (Bytes × Value)) (h : (rulesEvaluate rules lower text item).err = none) :
    Sentence rules (trimSpace text) := by
  refine Classical.byContradiction fun hns => ?_
  rw [(C05_only_sentences rules lower text hns item).1] at h
  cases h

/-- no object can make a non-sentence true -/
theorem C05_never_true (rules : List (Kind × Regex)) (lower : Bytes → Bytes) (text : List Char)
    (h : ¬ Sentence rules (trimSpace text)) : ∀ item, (rulesEvaluate rules lower text item).verdict = false := by
  intro item
  rw [(C05_only_sentences rules lower text h item).1]; rfl

end Rules
