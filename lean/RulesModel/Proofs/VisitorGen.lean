import RulesModel.Generated.Visitor
/-!
The visitor as translated from the Go source on this run is the model's visitor, up to `toV` (the stack, which the Go
slice keeps bottom-first, reversed; error texts forgotten). The induction over the parse tree is done once, for an
arbitrary implementation of the operations that agrees with `apply` (`acceptQuery_ops_spec`). The proofs unfold the
generated definitions and quote as little of their text as they can (the `switch` on the token kind is generalised with
holes), so that they keep going through when the Go code is rewritten harmlessly (DESIGN §4.4).
-/
namespace Rules.VisitorGen
open Rules Rules.Go Rules.Cst Rules.Gen
open Rules.P (Tok Tree Lit)

def toV (j : J) : VState :=
  { item := j.item, stack := j.stack.items.reverse, leftOp := j.leftOp, rightOp := j.rightOp,
    curOp := j.currentOperation, err := j.err.map clsErr, debugErr := j.debugErr.map clsDbg, calls := j.calls }

def mapR {α β} (f : α → β) : VM α → VM β
  | .ok a => .ok (f a)
  | .error p => .error p

theorem toV_calls (j : J) : (toV j).calls = j.calls := rfl
@[simp] theorem mapR_ok {α β} (f : α → β) (a : α) : mapR f (.ok a) = .ok (f a) := rfl
@[simp] theorem mapR_error {α β} (f : α → β) (p : PanicInfo) : mapR f (.error p) = .error p := rfl

theorem peek_spec (o : ObjStack) :
    objStack_peek o = match o.items.reverse with
      | top :: _ => .ok top
      | [] => .error .indexRange := by
  obtain ⟨items⟩ := o
  unfold objStack_peek Go.index Go.len
  rcases List.eq_nil_or_concat items with rfl | ⟨l, x, rfl⟩
  · simp
  · have : ¬ ((l.length : Int) < 0) := by omega
    simp [this]

theorem pop_spec (o : ObjStack) :
    objStack_pop o = match o.items.reverse with
      | top :: rest => .ok (top, { items := rest.reverse })
      | [] => .error .indexRange := by
  unfold objStack_pop
  rw [peek_spec]
  obtain ⟨items⟩ := o
  rcases List.eq_nil_or_concat items with rfl | ⟨l, x, rfl⟩
  · simp
  · have : ¬ (((l.length : Int) < 0) ∨ ((l.length : Int) + 1 < (l.length : Int))) := by omega
    simp [Go.sliceTo, Go.len, this]

theorem empty_spec (o : ObjStack) : objStack_empty o = o.items.isEmpty := by
  obtain ⟨items⟩ := o
  cases items <;> simp [objStack_empty, Go.len]
  omega

theorem absPath_ne : (c : AttrPathCtx) → ∃ k ks, absPath c = k :: ks
  | .mk n none => ⟨n.text, [], rfl⟩
  | .mk n (some s) => ⟨n.text, absPath s, rfl⟩

theorem bind_eta {α β} (x : VM (α × β)) :
    (match x with | .error p => .error p | .ok (a, b) => (.ok (a, b) : VM (α × β))) = x := by
  cases x <;> rfl

/-- The two simulation equations as eliminators: `refine sim_state (…_spec c j) (fun _ => rfl) fun t j' hy => ?_` replaces the
translated call and the model's call in the goal by two equal panics, then by two results with corresponding states.
The motive takes the model's side first: `elab_as_elim` abstracts the last argument first, and it is the match of `x` in
the goal that instantiates a state left as `_` in `h`. -/
@[elab_as_elim]
theorem sim_state {motive : VM VState → VM (Ret × J) → Prop} {x : VM (Ret × J)} {y : VM VState}
    (h : mapR (fun r => toV r.2) x = y) (error : ∀ p, motive (.error p) (.error p))
    (ok : ∀ t j', y = .ok (toV j') → motive (.ok (toV j')) (.ok (t, j'))) : motive y x := by
  subst h
  rcases x with p | ⟨t, j'⟩
  · exact error p
  · exact ok t j' rfl

@[elab_as_elim]
theorem sim_query {motive : VM (Bool × VState) → VM (Ret × J) → Prop} {x : VM (Ret × J)} {y : VM (Bool × VState)}
    (h : mapR (fun r => (r.1, toV r.2)) x = mapR (fun r => (some r.1, r.2)) y) (error : ∀ p, motive (.error p) (.error p))
    (ok : ∀ b j', y = .ok (b, toV j') → motive (.ok (b, toV j')) (.ok (some b, j'))) : motive y x := by
  rcases x with p | ⟨t, j'⟩ <;> rcases y with q | ⟨b, s⟩ <;> simp only [mapR, reduceCtorEq, Except.ok.injEq, Except.error.injEq, Prod.mk.injEq] at h
  · exact h ▸ error p
  · obtain ⟨rfl, rfl⟩ := h
    exact ok b j' rfl

theorem acceptAttrPath_spec : (c : AttrPathCtx) → (j : J) →
    mapR (fun r => toV r.2) (acceptAttrPath c j) = visitAttrPath (toV j) (absPath c)
  | .mk n none, j => by
    rcases List.eq_nil_or_concat j.stack.items with hi | ⟨st, x, hi⟩
    · simp [hi, acceptAttrPath, absPath, visitAttrPath, toV, empty_spec, Go.isNilV, objStack_clear, Value.isNull, assertMap, mapIndex]
    · cases x <;> simp [hi, acceptAttrPath, absPath, visitAttrPath, toV, empty_spec, pop_spec, Go.isNilV, Go.lift, objStack_clear, Value.isNull, assertMap, mapIndex, raise]
  | .mk n (some s), j => by
    obtain ⟨k', ks, hk⟩ := absPath_ne s
    -- the recursive call, whose result is passed on as it is
    have step (j1 : J) (S : VState) (hS : toV j1 = S) :
        mapR (fun r => toV r.2) (match acceptAttrPath s j1 with | .error p => .error p | .ok (t, j2) => .ok (t, j2)) =
          visitAttrPath S (k' :: ks) := by
      subst hS; rw [← hk, ← acceptAttrPath_spec s j1]; cases acceptAttrPath s j1 <;> rfl
    rcases List.eq_nil_or_concat j.stack.items with hi | ⟨st, x, hi⟩
    · simp [hi, acceptAttrPath, absPath, hk, visitAttrPath, toV, empty_spec, Go.isNilV, Value.isNull, assertMap, mapIndex, objStack_push, Go.append]
      exact step _ _ (by simp [toV])
    · cases x <;> simp [hi, acceptAttrPath, absPath, hk, visitAttrPath, toV, empty_spec, peek_spec, Go.isNilV, Go.lift, objStack_clear, Value.isNull, assertMap, mapIndex, raise, objStack_push, Go.append]
      exact step _ _ (by simp [toV])

theorem getString_spec (t : String) : getString t = .ok (getStringLit t) := by
  unfold getString getStringLit Go.strLen Go.substr
  by_cases h : (bytesOf t).length > 2
  · have h1 : ((bytesOf t).length : Int) > 2 := by omega
    have h2 : ¬ (((bytesOf t).length : Int) - 1 < 1 ∨ ((bytesOf t).length : Int) < ((bytesOf t).length : Int) - 1) := by omega
    simp [h, h1, h2, List.dropLast_eq_take, List.drop_take]
  · have h1 : ¬ ((bytesOf t).length : Int) > 2 := by omega
    simp [h, h1]

theorem acceptSubListOfInts_spec : (c : SubListCtx) → (j : J) →
    mapR (fun r => toV r.2) (acceptSubListOfInts c j) = visitSubInts (toV j) (absList c)
  | .mk e sub, j => by
    cases sub <;> cases hr : j.rightOp <;> cases h : parseIntLit false e.text none <;>
      simp [hr, acceptSubListOfInts, absList, visitSubInts, toV, Go.isNilR, assertInts, raise, Go.ParseInt, IntText.parse, h, J_setErr, clsErr, Go.append]
    all_goals exact sim_state (acceptSubListOfInts_spec _ _) (fun _ => rfl) fun _ _ _ => rfl

theorem acceptSubListOfDoubles_spec : (c : SubListCtx) → (j : J) →
    mapR (fun r => toV r.2) (acceptSubListOfDoubles c j) = visitSubFloats (toV j) (absList c)
  | .mk e sub, j => by
    cases sub <;> cases hr : j.rightOp <;> cases h : parseFloatLit e.text <;>
      simp [hr, acceptSubListOfDoubles, absList, visitSubFloats, toV, Go.isNilR, assertFloats, raise, Go.ParseFloat, h, J_setErr, clsErr, Go.append]
    all_goals exact sim_state (acceptSubListOfDoubles_spec _ _) (fun _ => rfl) fun _ _ _ => rfl

theorem acceptSubListOfStrings_spec : (c : SubListCtx) → (j : J) →
    mapR (fun r => toV r.2) (acceptSubListOfStrings c j) = visitSubStrs (toV j) (absList c)
  | .mk e sub, j => by
    cases sub <;> cases hr : j.rightOp <;>
      simp [hr, acceptSubListOfStrings, absList, visitSubStrs, toV, Go.isNilR, assertStrs, raise, getString_spec, Go.lift, Go.append]
    all_goals exact sim_state (acceptSubListOfStrings_spec _ _) (fun _ => rfl) fun _ _ _ => rfl

theorem acceptValue_spec (c : ValueCtx) (j : J) :
    mapR (fun r => toV r.2) (acceptValue c j) = visitLit (toV j) (absValue c) := by
  cases c with
  | boolean t =>
    by_cases h1 : t = "true" <;> by_cases h2 : t = "false" <;>
      simp [acceptValue, absValue, visitLit, toV, Go.ParseBool, h1, h2, J_setErr, clsErr, Go.newNestedError]
  | null => simp [acceptValue, absValue, visitLit, toV]
  | version v => simp [acceptValue, absValue, visitLit, toV]
  | string t => simp [acceptValue, absValue, visitLit, toV, getString_spec, Go.lift]
  | double t => cases h : parseFloatLit t <;> simp [acceptValue, absValue, visitLit, toV, Go.ParseFloat, h]
  | long t => cases h : parseIntLit t.neg t.int t.exp <;> simp [acceptValue, absValue, visitLit, toV, Go.ParseInt, IntText.parse, h, J_setErr, clsErr]
  | listOfInts s =>
    simp only [acceptValue, absValue, visitLit, if_true]
    exact sim_state (acceptSubListOfInts_spec s _) (fun _ => rfl) fun _ _ _ => rfl
  | listOfDoubles s =>
    simp only [acceptValue, absValue, visitLit, P.INT, P.DOUBLE, Nat.reduceEqDiff, if_true, if_false]
    exact sim_state (acceptSubListOfDoubles_spec s _) (fun _ => rfl) fun _ _ _ => rfl
  | listOfStrings s =>
    simp only [acceptValue, absValue, visitLit, P.INT, P.DOUBLE, P.STRING, Nat.reduceEqDiff, if_false]
    exact sim_state (acceptSubListOfStrings_spec s _) (fun _ => rfl) fun _ _ _ => rfl

theorem kind_cases (k : Nat) : k = 13 ∨ k = 14 ∨ k = 15 ∨ k = 16 ∨ k = 18 ∨ k = 17 ∨ k = 19 ∨ k = 20 ∨ k = 21 ∨ k = 12 ∨
    (k ≠ 13 ∧ k ≠ 14 ∧ k ≠ 15 ∧ k ≠ 16 ∧ k ≠ 18 ∧ k ≠ 17 ∧ k ≠ 19 ∧ k ≠ 20 ∧ k ≠ 21 ∧ k ≠ 12) := by
  simp only [Decidable.or_iff_not_imp_left]
  intros
  and_intros <;> assumption

theorem hasErr_toV (j : J) : (toV j).err.isSome = J_hasErr j := by
  simp [toV, J_hasErr]

/-- agreement is asked only on the registers the literal of a parse tree leaves behind: the translated methods agree with
`apply` only there (`OpsGen.RightOK`) -/
def Agrees (lower : Bytes → Bytes) (ops : OpsImpl) : Prop :=
  ∀ (s s' : VState) (v : ValueCtx), visitLit s (absValue v) = .ok s' → ∀ k, s'.curOp = some k → ∀ op w,
    ops k op s'.leftOp s'.rightOp w = embed w (Rules.apply lower k op s'.leftOp s'.rightOp)

theorem agrees_modelOps (lower : Bytes → Bytes) : Agrees lower (modelOps lower) := fun _ _ _ _ _ _ _ _ => rfl

/-- the translated visitor, run on any implementation of the operations that agrees with `apply` on the calls it can
make, is the model's visitor: from every state, on every parse tree -/
theorem acceptQuery_ops_spec (lower : Bytes → Bytes) (ops : OpsImpl) (hops : Agrees lower ops) (c : QueryCtx) : ∀ (j : J),
    mapR (fun r => (r.1, toV r.2)) (acceptQuery ops c j) = mapR (fun r => (some r.1, r.2)) (visit lower (abs c) (toV j)) := by
  induction c with
  | parenExp n q ih =>
    intro j
    simp only [acceptQuery, abs, visit]
    refine sim_query (ih j) (fun _ => rfl) fun b j' _ => ?_
    cases n <;> rfl
  | logicalExp l op r ihl ihr =>
    intro j
    simp only [acceptQuery, abs, visit]
    refine sim_query (ihl j) (fun _ => rfl) fun b j' _ => ?_
    simp only [assertBool, hasErr_toV]
    by_cases he : J_hasErr j' <;> simp only [he, if_true, if_false, mapR, Bool.false_eq_true]
    refine sim_query (ihr j') (fun _ => ?_) (fun b' j'' _ => ?_) <;> by_cases ho : op.text = "or" <;> cases b <;> simp [ho]
  | presentExp p =>
    intro j
    simp only [acceptQuery, abs, visit, visitPresent]
    exact sim_state (acceptAttrPath_spec p j) (fun _ => rfl) fun _ _ _ => rfl
  | compareExp p op v =>
    intro j
    simp only [acceptQuery, abs, visit, visitCompare]
    refine sim_state (acceptAttrPath_spec p j) (fun _ => rfl) fun _ j1 _ => ?_
    dsimp only
    refine sim_state (acceptValue_spec v j1) (fun _ => rfl) fun _ j2 hy2 => ?_
    simp only [hasErr_toV]
    by_cases he : J_hasErr j2
    · simp only [he, if_true, mapR]
    simp only [he, if_false, Bool.false_eq_true]
    -- the `switch ctx.op.GetTokenType()` selects the method `cmpOfKind` names, before anything is called
    generalize hju : J_setErr j2 (some (GErr.new _)) = ju
    generalize hsw : (ite (op.kind == 13) _ _ : VM (Sum (Ret × J) (Option MethodVal × J))) = sw
    have : sw = match cmpOfKind op.kind with
        | some o => (match methodVal j2.currentOperation o j2 with
          | .error p => .error p
          | .ok m => .ok (.inr (m, j2)))
        | none => .ok (.inl (some false, ju)) := by
      subst hsw
      rcases kind_cases op.kind with h | h | h | h | h | h | h | h | h | h | h <;> simp [h, cmpOfKind] <;> rfl
    subst this hju
    cases cmpOfKind op.kind with
    | none => simp [mapR, toV, J_setErr, clsErr]
    | some o =>
      cases hk : j2.currentOperation with
      | none => simp [hk, methodVal, raise, mapR, toV]
      | some k =>
        have hcall := hops _ _ v hy2 k hk o j2.calls
        simp only [toV] at hcall
        simp only [methodVal, callOp, hcall, toV, hk]
        cases Rules.apply lower k o j2.leftOp j2.rightOp with
        | err e c => cases e <;> simp [embed, mapR, J_setErr, J_setDebugErr, clsErr, clsDbg, newNestedError, GErr.Set]
        | _ => simp [embed, mapR]

theorem acceptQuery_spec (lower : Bytes → Bytes) (c : QueryCtx) : ∀ (j : J),
    mapR (fun r => (r.1, toV r.2)) (acceptQuery (modelOps lower) c j) = mapR (fun r => (some r.1, r.2)) (visit lower (abs c) (toV j)) :=
  acceptQuery_ops_spec lower _ (agrees_modelOps lower) c

theorem new_spec (item : List (Bytes × Value)) : toV (NewJsonQueryVisitorImpl item) = VState.init item := by
  simp [toV, NewJsonQueryVisitorImpl, VState.init]

theorem visit_top_ops_spec (lower : Bytes → Bytes) (ops : OpsImpl) (hops : Agrees lower ops) (c : QueryCtx) (j : J)
    (h : J_hasErr j = false) :
    mapR (fun r => (r.1, toV r.2)) (J_Visit ops j c) = mapR (fun r => (some r.1, r.2)) (visit lower (abs c) (toV j)) := by
  cases c <;> simp only [J_Visit, h, Bool.false_eq_true, if_false] <;>
    exact sim_query (acceptQuery_ops_spec lower ops hops _ j) (fun _ => rfl) fun _ _ _ => rfl

theorem visit_top_spec (lower : Bytes → Bytes) (c : QueryCtx) (j : J) (h : J_hasErr j = false) :
    mapR (fun r => (r.1, toV r.2)) (J_Visit (modelOps lower) j c) = mapR (fun r => (some r.1, r.2)) (visit lower (abs c) (toV j)) :=
  visit_top_ops_spec lower _ (agrees_modelOps lower) c j h

/-- `Evaluator.Process` once the rule has been found well-formed, over the *translated* visitor:
`visitor := NewJsonQueryVisitorImpl(items); result := visitor.Visit(e.tree); e.lastDebugErr = visitor.debugErr;
if result == nil || visitor.err != nil { return false, visitor.err }; return result.(bool), visitor.err`, with the
deferred `recover()` (this function itself is transcribed by hand: `Process` is not in the translated file) -/
def genProcess (lower : Bytes → Bytes) (c : QueryCtx) (item : List (Bytes × Value)) : ProcOut :=
  match J_Visit (modelOps lower) (NewJsonQueryVisitorImpl item) c with
  | .error p => { verdict := false, err := some (.panic p.p), debug := p.debug, calls := p.calls }
  | .ok (result, visitor) =>
    match result, visitor.err with
    | _, some e => { verdict := false, err := some (clsErr e), debug := visitor.debugErr.map clsDbg, calls := visitor.calls }
    | none, none => { verdict := false, err := none, debug := visitor.debugErr.map clsDbg, calls := visitor.calls }
    | some b, none => { verdict := b, err := none, debug := visitor.debugErr.map clsDbg, calls := visitor.calls }

/-- `genProcess` for any implementation of the operations; `genProcess` and `Composed.genProcessT` are this text with `ops`
filled in, so `genProcess_eq` and `genProcessT_eq` are instances of `genProcessWith_eq` up to unfolding -/
def genProcessWith (ops : OpsImpl) (c : QueryCtx) (item : List (Bytes × Value)) : ProcOut :=
  match J_Visit ops (NewJsonQueryVisitorImpl item) c with
  | .error p => { verdict := false, err := some (.panic p.p), debug := p.debug, calls := p.calls }
  | .ok (result, visitor) =>
    match result, visitor.err with
    | _, some e => { verdict := false, err := some (clsErr e), debug := visitor.debugErr.map clsDbg, calls := visitor.calls }
    | none, none => { verdict := false, err := none, debug := visitor.debugErr.map clsDbg, calls := visitor.calls }
    | some b, none => { verdict := b, err := none, debug := visitor.debugErr.map clsDbg, calls := visitor.calls }

theorem genProcessWith_eq (lower : Bytes → Bytes) (ops : OpsImpl) (hops : Agrees lower ops) (c : QueryCtx)
    (item : List (Bytes × Value)) : genProcessWith ops c item = processTree lower (abs c) item := by
  unfold genProcessWith processTree
  rw [← new_spec]
  refine sim_query (visit_top_ops_spec lower ops hops c _ rfl) (fun _ => rfl) fun b j' _ => ?_
  cases h : j'.err <;> simp [toV, h]

/-- **the translated visitor computes what the model computes** on every parse tree and every object -/
theorem genProcess_eq (lower : Bytes → Bytes) (c : QueryCtx) (item : List (Bytes × Value)) :
    genProcess lower c item = processTree lower (abs c) item :=
  genProcessWith_eq lower _ (agrees_modelOps lower) c item

def cstPathOf : List String → Option AttrPathCtx
  | [] => none
  | n :: ms => some (cstPath n ms)
def cstListOf (k : P.Kind) : List String → Option SubListCtx
  | [] => none
  | e :: es => some (cstList k e es)
def cstLit : Lit → Option ValueCtx
  | .bool t => some (.boolean t)
  | .null => some .null
  | .version t => some (.version ⟨P.VERSION, t⟩)
  | .str t => some (.string t)
  | .double t => some (.double t)
  | .long n i e => some (.long ⟨n, i, e⟩)
  | .list k xs =>
    if k = P.INT then (cstListOf k xs).map .listOfInts
    else if k = P.DOUBLE then (cstListOf k xs).map .listOfDoubles
    else if k = P.STRING then (cstListOf k xs).map .listOfStrings
    else none
def cstOf : Tree → Option QueryCtx
  | .paren neg q => (cstOf q).map (.parenExp (if neg then some ⟨P.NOT, "not"⟩ else none))
  | .logical op l r =>
    match cstOf l, cstOf r with
    | some a, some b => some (.logicalExp a ⟨P.LOGOP, op⟩ b)
    | _, _ => none
  | .present p => (cstPathOf p).map .presentExp
  | .compare p k v =>
    match cstPathOf p, cstLit v with
    | some a, some b => some (.compareExp a ⟨k, ""⟩ b)
    | _, _ => none

theorem absPath_cstPath : ∀ (ms : List String) (n : String), absPath (cstPath n ms) = n :: ms
  | [], n => rfl
  | m :: ms, n => by simp [cstPath, absPath, absPath_cstPath ms m]
theorem absList_cstList (k : P.Kind) : ∀ (es : List String) (e : String), absList (cstList k e es) = e :: es
  | [], e => rfl
  | f :: fs, e => by simp [cstList, absList, absList_cstList k fs f]

theorem abs_cstLit {v : Lit} {c : ValueCtx} (h : cstLit v = some c) : absValue c = v := by
  cases v with
  | list k xs =>
    cases xs with
    | nil => simp [cstLit, cstListOf] at h
    | cons e es =>
      simp only [cstLit, cstListOf, Option.map_some] at h
      repeat' split at h
      all_goals cases h
      all_goals simp [absValue, absList_cstList, *]
  | _ => cases h; rfl

theorem abs_cstPathOf {p : List String} {a : AttrPathCtx} (h : cstPathOf p = some a) : absPath a = p := by
  cases p <;> cases h
  exact absPath_cstPath _ _

theorem abs_cstOf : ∀ {t : Tree} {c : QueryCtx}, cstOf t = some c → abs c = t := by
  intro t
  fun_induction cstOf t <;> intro c h
  -- the cases in which every part has a parse tree: paren, logical, present, compare; in the others `h : none = some c`
  case case1 neg q ih => obtain ⟨c', hc, rfl⟩ := Option.map_eq_some_iff.mp h; cases neg <;> simp [abs, ih hc]
  case case2 hr hl ihl ihr => cases h; simp [abs, ihl hl, ihr hr]
  case case4 => obtain ⟨a, ha, rfl⟩ := Option.map_eq_some_iff.mp h; simp [abs, abs_cstPathOf ha]
  case case5 hv hp => cases h; simp [abs, abs_cstPathOf hp, abs_cstLit hv]
  all_goals cases h

theorem cstPathOf_of_DPath {ts p} (h : P.DPath ts p) : (cstPathOf p).isSome := by
  cases h <;> simp [cstPathOf]
theorem cstListOf_of_DList {k ts xs} (h : P.DList k ts xs) : (cstListOf k xs).isSome := by
  cases h <;> simp [cstListOf]
theorem cstLit_of_DValue {ts v} (h : P.DValue ts v) : (cstLit v).isSome := by
  cases h with
  | list k hk b hl =>
    have := cstListOf_of_DList hl
    rcases hk with rfl | rfl | rfl <;> simp [cstLit, P.INT, P.DOUBLE, P.STRING] <;> simpa [P.INT, P.DOUBLE, P.STRING] using this
  | _ => simp [cstLit]

theorem cstOf_of_D {b ts t} (h : P.D b ts t) : (cstOf t).isSome := by
  induction h with
  | paren n s1 s2 s3 l r _ ih => simpa [cstOf] using ih
  | present s pr hp => simpa [cstOf] using cstPathOf_of_DPath hp
  | compare s1 o s2 k hk hp hv =>
    have h1 := cstPathOf_of_DPath hp
    have h2 := cstLit_of_DValue hv
    simp only [cstOf]
    cases h3 : cstPathOf _ <;> cases h4 : cstLit _ <;> simp_all
  | prim _ ih => exact ih
  | logical s1 op s2 _ _ ih1 ih2 =>
    simp only [cstOf]
    cases h3 : cstOf _ <;> cases h4 : cstOf _ <;> simp_all

theorem exists_cst {b ts t} (h : P.D b ts t) : ∃ c : QueryCtx, abs c = t := by
  obtain ⟨c, hc⟩ := Option.isSome_iff_exists.1 (cstOf_of_D h)
  exact ⟨c, abs_cstOf hc⟩

/-- **From the source text of the visitor to `Process`**: for every rule the grammar derives there is a parse tree
whose abstraction is the model's tree, and on it the visitor *as translated from the Go source on this run* returns
what the model's `processTree` returns, for every object. Together with `processTree_eq` (Proofs/Refine) every
property theorem about `evalOut` is a theorem about the translated code. -/
theorem translated_process {b ts t} (h : P.D b ts t) (lower : Bytes → Bytes) (item : List (Bytes × Value)) :
    ∃ c : QueryCtx, abs c = t ∧ genProcess lower c item = processTree lower t item := by
  obtain ⟨c, rfl⟩ := exists_cst h
  exact ⟨c, rfl, genProcess_eq lower c item⟩

/-- non-vacuity: a rule with a nested path, a list, a negation and a connective, evaluated through the translated code -/
example : genProcess id
    (.logicalExp (.parenExp (some ⟨8, "not"⟩) (.compareExp (.mk ⟨22, "a"⟩ (some (.mk ⟨22, "b"⟩ none))) ⟨12, "in"⟩ (.listOfInts (.mk ⟨26, "1"⟩ (some (.mk ⟨26, "2"⟩ none))))))
      ⟨9, "and"⟩ (.compareExp (.mk ⟨22, "x"⟩ none) ⟨13, "eq"⟩ (.string "\"s\"")))
    [(bytesOf "a", .obj [(bytesOf "b", .int 3)]), (bytesOf "x", .str (bytesOf "s"))]
    = { verdict := true, err := none, debug := none, calls := [] } := by decide +kernel
end Rules.VisitorGen
