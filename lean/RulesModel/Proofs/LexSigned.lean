import RulesModel.Proofs.LexClosed
/-!
In every token sequence `D` derives, neighbours are related by a fixed finite relation on token kinds (`AdjS.D_adjacent`),
and on the regenerated table every related pair is separated by one character of look-ahead unless the left kind is a
string literal (closed) or the pair is `-` INT or INT EXP (`adj_separated_all`). Those two are decided by shape: an INT is
a digit string, and whatever can follow it in a rule starts with neither a digit nor a dot, so no DOUBLE / VERSION can be
completed; that is asked of the table as `SignedOK` and `intFollowOK`. Hence `lexParse_tokensQ`, for every sentence.
-/
namespace Rules.Adj
open Rules.P

def isFirst (k : Kind) : Bool := k == NOT || k == SP || k == LP || k == ATTR
def isVal (k : Kind) : Bool := k == BOOLEAN || k == NULL || k == VERSION || k == STRING || k == DOUBLE || k == INT
def isElem (k : Kind) : Bool := k == INT || k == DOUBLE || k == STRING
def isLast (k : Kind) : Bool := k == RP || k == PR || isVal k || k == RB

/-- kinds that can be neighbours in a derivable token sequence (without MINUS / EXP tokens) -/
def adj (a b : Kind) : Bool :=
  (a == ATTR && (b == DOT || b == SP)) || (a == DOT && b == ATTR) ||
  (isElem a && (b == RB || b == COMMA)) || (a == COMMA && isElem b) || (a == LB && isElem b) ||
  (a == SP && (b == PR || isCmp b || isVal b || b == LB || isFirst b || b == RP || b == LOGOP)) ||
  (isCmp a && b == SP) || (a == LOGOP && b == SP) ||
  (a == NOT && (b == SP || b == LP)) || (a == LP && isFirst b) ||
  (isLast a && (b == SP || b == RP))

end Rules.Adj

namespace Rules.AdjS
open Rules.P
open Rules.Adj (isFirst isVal isElem isLast adj)

def isLastS (k : Kind) : Bool := isLast k || k == EXP

/-- kinds that can be neighbours in a derivable token sequence -/
def adjS (a b : Kind) : Bool :=
  adj a b || (a == SP && b == MINUS) || (a == MINUS && b == INT) || (a == INT && b == EXP) ||
  (a == EXP && (b == SP || b == RP))

def chain : List Kind → Bool
  | a :: b :: rest => adjS a b && chain (b :: rest)
  | _ => true

/-- Stated for every function `c` with the recursion equation of `chain`, so that it also serves `Adj.chainAdj`
(`Proofs/LexAdj.lean`), the same function over `adj`. -/
theorem chain_append {r : Kind → Kind → Bool} {c : List Kind → Bool}
    (hc : ∀ a b rest, c (a :: b :: rest) = (r a b && c (b :: rest))) {l f : Kind} {ys : List Kind}
    (hr : r l f = true) (hys : c (f :: ys) = true) :
    ∀ {xs : List Kind}, xs.getLast? = some l → c xs = true → c (xs ++ f :: ys) = true
  | [a], hl, _ => by
    obtain rfl : a = l := by simpa using hl
    rw [List.singleton_append, hc, hr, hys]; rfl
  | a :: b :: xs, hl, hx => by
    rw [hc, Bool.and_eq_true] at hx
    rw [List.cons_append, List.cons_append, hc, hx.1, Bool.true_and]
    exact chain_append hc hr hys (by simpa using hl) hx.2

structure Seg (ks : List Kind) (f l : Kind) : Prop where
  head : ks.head? = some f
  last : ks.getLast? = some l
  chain : chain ks = true

theorem Seg.single (k : Kind) : Seg [k] k k := ⟨rfl, rfl, rfl⟩

theorem Seg.append {xs ys f1 l1 f2 l2} (h1 : Seg xs f1 l1) (h2 : Seg ys f2 l2) (ha : adjS l1 f2 = true) :
    Seg (xs ++ ys) f1 l2 := by
  obtain ⟨ys', rfl⟩ := List.head?_eq_some_iff.1 h2.head
  refine ⟨?_, ?_, chain_append (fun _ _ _ => rfl) ha h2.chain h1.last h1.chain⟩
  · rw [List.head?_append]; simp [h1.head]
  · rw [List.getLast?_append]; simp [h2.last]

/-- an optional token in front: the new first kind is `k` or `f`, so it has every property `P` of both -/
theorem Seg.optCons {ys f l} {P : Kind → Prop} (k : Kind) (o : Option String) (h : Seg ys f l) (ha : adjS k f = true)
    (hk : P k) (hf : P f) : ∃ f', Seg ((optTok k o).map (·.kind) ++ ys) f' l ∧ P f' := by
  cases o with
  | none => exact ⟨f, by simpa [optTok] using h, hf⟩
  | some s => exact ⟨k, by simpa [optTok] using Seg.append (Seg.single k) h ha, hk⟩

theorem Seg.optSnoc {xs f l} {P : Kind → Prop} (k : Kind) (o : Option String) (h : Seg xs f l) (ha : adjS l k = true)
    (hk : P k) (hl : P l) : ∃ l', Seg (xs ++ (optTok k o).map (·.kind)) f l' ∧ P l' := by
  cases o with
  | none => exact ⟨l, by simpa [optTok] using h, hl⟩
  | some s => exact ⟨k, by simpa [optTok] using Seg.append h (Seg.single k) ha, hk⟩

def kinds (ts : List Tok) : List Kind := ts.map (·.kind)

theorem DPath_seg {ps p} (h : DPath ps p) : Seg (kinds ps) ATTR ATTR := by
  induction h with
  | one n => exact Seg.single ATTR
  | dot n d _ ih =>
    have := Seg.append (Seg.append (Seg.single ATTR) (Seg.single DOT) (by decide)) ih (by decide)
    simpa [kinds] using this

theorem DList_seg {k ts xs} (hk : isElem k = true) (h : DList k ts xs) : Seg (kinds ts) k RB := by
  induction h with
  | last t b =>
    have := Seg.append (Seg.single k) (Seg.single RB) (by simp [adjS, adj, hk])
    simpa [kinds] using this
  | cons t c _ ih =>
    have h1 := Seg.append (Seg.single k) (Seg.single COMMA) (by simp [adjS, adj, hk])
    have := Seg.append h1 ih (by simp [adjS, adj, hk])
    simpa [kinds] using this

theorem DValue_seg {vs v} (h : DValue vs v) : ∃ f l, Seg (kinds vs) f l ∧ adjS SP f = true ∧ isLastS l = true := by
  cases h with
  | bool t | null t | version t | str t | double t => exact ⟨_, _, Seg.single _, rfl, rfl⟩
  | long m i e =>
    obtain ⟨l, a1, hl⟩ := (Seg.single INT).optSnoc (P := (isLastS · = true)) EXP e (by decide) (by decide) (by decide)
    obtain ⟨f, a2, hf⟩ := a1.optCons (P := (adjS SP · = true)) MINUS m (by decide) (by decide) (by decide)
    exact ⟨f, l, by simpa [kinds, optTok] using a2, hf, hl⟩
  | list k hk b hl =>
    have he : isElem k = true := by rcases hk with h | h | h <;> subst h <;> decide
    have := Seg.append (Seg.single LB) (DList_seg he hl) (by simp [adjS, adj, he])
    exact ⟨LB, RB, by simpa [kinds] using this, by decide, by decide⟩

theorem adjS_sp_first (f : Kind) (h : isFirst f = true) : adjS SP f = true := by simp [adjS, adj, h]
theorem adjS_lp_first (f : Kind) (h : isFirst f = true) : adjS LP f = true := by simp [adjS, adj, h]

theorem adjS_last {l b : Kind} (h : isLastS l = true) (hb : (b == SP || b == RP) = true) : adjS l b = true := by
  rcases Bool.or_eq_true _ _ ▸ h with h | h <;> simp [adjS, adj, h, hb]

/-- **Neighbours in a rule – every sentence.** Every derivable token sequence starts with a kind in `isFirst`, ends with a
kind in `isLastS`, and all its neighbours are `adjS`-related. -/
theorem D_adjacent {b ts t} (h : D b ts t) :
    ∃ f l, Seg (kinds ts) f l ∧ isFirst f = true ∧ isLastS l = true := by
  induction h with
  | @paren n s1 s2 s3 l r ts t _ ih =>
    obtain ⟨f, la, hs, hf, hl⟩ := ih
    -- from the inside out: `SP? ts`, `( SP? ts`, `( SP? ts SP?`, `( SP? ts SP? )`, then `SP?` and `NOT?` in front
    obtain ⟨f2, a1, hf2⟩ := hs.optCons (P := (isFirst · = true)) SP s2 (adjS_sp_first f hf) (by decide) hf
    have a2 := (Seg.single LP).append a1 (adjS_lp_first f2 hf2)
    obtain ⟨l3, a3, hl3⟩ := a2.optSnoc (P := (adjS · RP = true)) SP s3 (adjS_last hl (by decide)) (by decide)
      (adjS_last hl (by decide))
    have a4 := a3.append (Seg.single RP) hl3
    obtain ⟨f5, a5, hf5⟩ := a4.optCons (P := fun k => isFirst k = true ∧ adjS NOT k = true) SP s1 (by decide)
      (by decide) (by decide)
    obtain ⟨f6, a6, hf6⟩ := a5.optCons (P := (isFirst · = true)) NOT n hf5.2 (by decide) hf5.1
    exact ⟨f6, RP, by simpa [kinds] using a6, hf6, by decide⟩
  | @present s pr ps p hp =>
    have := Seg.append (Seg.append (DPath_seg hp) (Seg.single SP) (by decide)) (Seg.single PR) (by decide)
    exact ⟨ATTR, PR, by simpa [kinds] using this, by decide, by decide⟩
  | @compare s1 o s2 k hk ps p vs v hp hv =>
    obtain ⟨f, la, hs, hf, hl⟩ := DValue_seg hv
    have b1 := Seg.append (DPath_seg hp) (Seg.single SP) (by decide)
    have b2 := Seg.append b1 (Seg.single k) (by simp [adjS, adj, hk])
    have b3 := Seg.append b2 (Seg.single SP) (by simp [adjS, adj, hk])
    have b4 := Seg.append b3 hs hf
    exact ⟨ATTR, la, by simpa [kinds] using b4, by decide, hl⟩
  | prim _ ih => exact ih
  | @logical s1 op s2 ts1 t1 ts2 t2 _ _ ih1 ih2 =>
    obtain ⟨f1, l1, hs1, hf1, hl1⟩ := ih1
    obtain ⟨f2, l2, hs2, hf2, hl2⟩ := ih2
    have c1 := Seg.append hs1 (Seg.single SP) (adjS_last hl1 (by decide))
    have c2 := Seg.append c1 (Seg.single LOGOP) (by decide)
    have c3 := Seg.append c2 (Seg.single SP) (by decide)
    have c4 := Seg.append c3 hs2 (adjS_sp_first f2 hf2)
    exact ⟨f1, l2, by simpa [kinds] using c4, hf1, hl2⟩

end Rules.AdjS

namespace Rules
open Rules.Regex

def firstOfKind (rules : List (Kind × Regex)) (k : Kind) : CSet :=
  (rules.filter (fun kr => kr.1 == k)).flatMap (fun kr => firstChars kr.2)

def expand (cs : CSet) : List Nat := cs.flatMap (fun p => List.range' p.1 (p.2 + 1 - p.1))

theorem mem_expand (cs : CSet) (x : Nat) (h : cs.mem x = true) : x ∈ expand cs := by
  obtain ⟨⟨lo, hi⟩, hp, hx⟩ := List.any_eq_true.1 h
  simp only [Bool.and_eq_true, decide_eq_true_eq] at hx
  exact List.mem_flatMap.2 ⟨(lo, hi), hp, by simp only [List.mem_range'_1]; omega⟩

/-- every first character of a token of kind `a` is separated (`sepOK`) from every first character of one of kind `b` -/
def sepKinds (rules : List (Kind × Regex)) (a b : Kind) : Bool :=
  (expand (firstOfKind rules a)).all fun d => (expand (firstOfKind rules b)).all fun c => sepOK rules d c

theorem canon_first (rules : List (Kind × Regex)) (x : Token) (h : Canon rules x) :
    ∃ d w, x.text = d :: w ∧ d.toNat ∈ expand (firstOfKind rules x.kind) := by
  obtain ⟨kr, hkr, e1, e2⟩ := h.rule
  obtain ⟨d, w, hd⟩ := List.exists_cons_of_ne_nil h.1
  refine ⟨d, w, hd, mem_expand _ _ ?_⟩
  simp only [firstOfKind, CSet.mem, List.any_flatMap, List.any_filter]
  exact List.any_eq_true.2 ⟨kr, hkr, by simpa [e1, CSet.mem] using firstChars_sound (hd ▸ e2)⟩

theorem takes_of_sepKinds {rules : List (Kind × Regex)} {t t' : Token} (hc : Canon rules t) (hc' : Canon rules t')
    (h : sepKinds rules t.kind t'.kind = true) (rest : List Char) : Takes rules t (t'.text ++ rest) := by
  obtain ⟨d, w, hd, hdm⟩ := canon_first rules t hc
  obtain ⟨c, v, hcv, hcm⟩ := canon_first rules t' hc'
  have hsep := List.all_eq_true.1 (List.all_eq_true.1 h _ hdm) _ hcm
  exact hc.takes (by simpa [hd, hcv] using bestMatch_sep rules d w c (v ++ rest) hsep)

def nonDigitDot (c : Nat) : Bool := !(decide (48 ≤ c) && decide (c ≤ 57)) && c != 46

def adjTableOKS (rules : List (Kind × Regex)) : Bool :=
  (rules.map (·.1)).all fun a => (rules.map (·.1)).all fun b =>
    !AdjS.adjS a b || a == P.STRING || (a == P.MINUS && b == P.INT) || (a == P.INT && b == P.EXP) || sepKinds rules a b

def intFollowOK (rules : List (Kind × Regex)) : Bool :=
  (rules.map (·.1)).all fun b => !AdjS.adjS P.INT b || (expand (firstOfKind rules b)).all nonDigitDot

structure SignedOK (rules : List (Kind × Regex)) : Prop where
  minus : ∀ x : Token, Canon rules x → x.kind = P.MINUS → x.text = ['-']
  int : ∀ (i : Token) (r : List Char), Canon rules i → i.kind = P.INT →
    (∀ c, r.head? = some c → nonDigitDot c.toNat = true) →
    bestMatch rules ('-' :: (i.text ++ r)) = some (P.MINUS, 1) ∧
    bestMatch rules (i.text ++ r) = some (P.INT, i.text.length)

theorem int_followed (rules : List (Kind × Regex)) (hfol : intFollowOK rules = true) {i : Token} (hi : i.kind = P.INT) :
    ∀ {rest : List Token}, (∀ x ∈ rest, Canon rules x) → AdjS.chain ((i :: rest).map (·.kind)) = true →
      ∀ c, (rest.flatMap (·.text)).head? = some c → nonDigitDot c.toNat = true
  | [], _, _, c, hc => by simp at hc
  | x :: rest, hcan, hch, c, hc => by
    simp only [List.map_cons, AdjS.chain, Bool.and_eq_true, hi] at hch
    have hx := (List.forall_mem_cons.1 hcan).1
    obtain ⟨c0, v, hcv, hcm⟩ := canon_first rules x hx
    obtain rfl : c0 = c := by simpa [hcv] using hc
    have h1 := List.all_eq_true.1 hfol x.kind hx.kind_mem
    simp only [hch.1, Bool.not_true, Bool.false_or] at h1
    exact List.all_eq_true.1 h1 _ hcm

theorem takesAll_of_adjS (rules : List (Kind × Regex)) (htab : adjTableOKS rules = true) (hfol : intFollowOK rules = true)
    (hsig : SignedOK rules) : ∀ ts : List Token,
    (∀ x ∈ ts, Canon rules x) → (∀ x ∈ ts, x.kind = P.STRING → ClosedP rules x.text) →
    AdjS.chain (ts.map (·.kind)) = true → TakesAll rules ts
  | [], _, _, _ => trivial
  | [t], hc, _, _ => ⟨(hc t (by simp)).takes (by simp), trivial⟩
  | t :: t' :: rest, hc, hcl, hch => by
    obtain ⟨ht, hrest⟩ := List.forall_mem_cons.1 hc
    obtain ⟨ht', hrest'⟩ := List.forall_mem_cons.1 hrest
    obtain ⟨hclt, hclrest⟩ := List.forall_mem_cons.1 hcl
    have hch' : AdjS.adjS t.kind t'.kind = true ∧ AdjS.chain ((t' :: rest).map (·.kind)) = true := by
      simpa [AdjS.chain] using hch
    refine ⟨?_, takesAll_of_adjS rules htab hfol hsig (t' :: rest) hrest hclrest hch'.2⟩
    have h2 := List.all_eq_true.1 (List.all_eq_true.1 htab _ ht.kind_mem) _ ht'.kind_mem
    simp only [hch'.1, Bool.not_true, Bool.false_or, Bool.or_eq_true, beq_iff_eq, Bool.and_eq_true] at h2
    rcases h2 with ((h2 | h2) | h2) | h2
    · exact ht.takes (hclt h2 _)
    · -- `-` before an integer: `SignedOK` looks over the integer at what follows it
      have := (hsig.int t' _ ht' h2.2 (int_followed rules hfol h2.2 hrest' hch'.2)).1
      exact ⟨ht.1, by rw [hsig.minus t ht h2.1, h2.1]; simpa using this⟩
    · -- an integer before an exponent
      have := (hsig.int t _ ht h2.1 (int_followed rules hfol h2.1 hrest hch)).2
      exact ⟨ht.1, by rw [h2.1]; exact this⟩
    · simpa using takes_of_sepKinds ht ht' h2 (rest.flatMap (·.text))

theorem adj_separated_all : adjTableOKS Generated.lexerRules = true := by
  simp only [adjTableOKS, sepKinds, all_sepOK]
  decide +kernel
theorem int_follow : intFollowOK Generated.lexerRules = true := by decide +kernel

theorem map_kind_toTok (ts : List Token) : (ts.map toTok).map (·.kind) = ts.map (·.kind) := by
  simp [toTok, Function.comp_def]

/-- **Character-level round trip from per-token conditions, every sentence.** A token sequence the grammar derives, in
which every token is canonical for the table and every string literal is closed, is read back from its text as the tree it
derives – `-` and exponent tokens included. -/
theorem lexParse_tokensQ (rules : List (Kind × Regex)) (htab : adjTableOKS rules = true) (hfol : intFollowOK rules = true)
    (hsig : SignedOK rules) (ts : List Token) (t : P.Tree)
    (hd : P.D false (ts.map toTok) t) (hc : ∀ x ∈ ts, Canon rules x)
    (hcl : ∀ x ∈ ts, x.kind = P.STRING → ClosedP rules x.text) :
    lexParse rules (ts.flatMap (·.text)) = some t := by
  obtain ⟨f, l, hs, _, _⟩ := AdjS.D_adjacent hd
  exact lexParse_of_takesAll (takesAll_of_adjS rules htab hfol hsig ts hc hcl (map_kind_toTok ts ▸ hs.chain)) hd

end Rules
