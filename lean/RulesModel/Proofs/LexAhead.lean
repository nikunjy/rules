import RulesModel.Proofs.LexClosed
/-!
Look-ahead over whole tokens. One character cannot separate `-` from an integer (a digit could continue a DOUBLE, `-12.5`)
nor an integer from an exponent (an `e` could belong to a DOUBLE); what decides is the next tokens as wholes: `-12` followed
by a blank is not a DOUBLE. `aheadOK` reads on until the maximal-munch choice on the texts read so far is still the left
token and the next character cuts off every rule that could start like it (or the input ends). The round trip is proved
once, for `sepChain3` (`takesAll_of_sepChain3`); `sepChain2` and `sepChain` imply `sepChain3`.
-/
namespace Rules
open Rules.Regex

def headSep (rules : List (Kind × Regex)) (t n : Token) : Bool :=
  match t.text, n.text with
  | d :: _, c :: _ => sepOK rules d.toNat c.toNat
  | _, _ => false

theorem bestMatch_headSep {rules : List (Kind × Regex)} {t n : Token} (h : headSep rules t n = true) (mid rest : List Char) :
    bestMatch rules (t.text ++ mid ++ (n.text ++ rest)) = bestMatch rules (t.text ++ mid) := by
  unfold headSep at h
  split at h
  · rename_i d w c v hd hc
    simpa [hd, hc] using bestMatch_sep rules d (w ++ mid) c (v ++ rest) h
  · cases h

/-- `acc`: the texts of the following tokens read so far -/
def aheadOK (rules : List (Kind × Regex)) (t : Token) : Nat → List Token → List Char → Bool
  | _, [], acc => decide (bestMatch rules (t.text ++ acc) = some (t.kind, t.text.length))
  | 0, _ :: _, _ => false
  | fuel + 1, n :: rest, acc =>
    (decide (bestMatch rules (t.text ++ acc) = some (t.kind, t.text.length)) && headSep rules t n) ||
    aheadOK rules t fuel rest (acc ++ n.text)

theorem aheadOK_takes (rules : List (Kind × Regex)) (t : Token) :
    ∀ (fuel : Nat) (fol : List Token) (acc : List Char), aheadOK rules t fuel fol acc = true →
      bestMatch rules (t.text ++ acc ++ fol.flatMap (·.text)) = some (t.kind, t.text.length)
  | _, [], acc, h => by simpa [aheadOK] using h
  | 0, _ :: _, _, h => by simp [aheadOK] at h
  | fuel + 1, n :: rest, acc, h => by
    simp only [aheadOK, Bool.or_eq_true, Bool.and_eq_true, decide_eq_true_eq] at h
    rcases h with ⟨hbm, hsep⟩ | hrec
    · rw [List.flatMap_cons, bestMatch_headSep hsep]; exact hbm
    · simpa using aheadOK_takes rules t fuel rest (acc ++ n.text) hrec

theorem aheadOK_sound (rules : List (Kind × Regex)) (t : Token) (ht : t.text ≠ []) :
    ∀ (fuel : Nat) (fol : List Token) (acc : List Char), (∀ x ∈ fol, x.text ≠ []) →
      aheadOK rules t fuel fol acc = true →
      bestMatch rules (t.text ++ acc ++ fol.flatMap (·.text)) = some (t.kind, t.text.length) :=
  fun fuel fol acc _ h => aheadOK_takes rules t fuel fol acc h

/-- adjacent tokens: one character of look-ahead, or the left token is closed, or look-ahead over up to four tokens -/
def sepChain3 (rules : List (Kind × Regex)) : List Token → Bool
  | t :: rest =>
    (match rest with
     | [] => true
     | t' :: _ => headSep rules t t' || extClosed rules t.text || aheadOK rules t 4 rest []) && sepChain3 rules rest
  | [] => true

theorem sepChain3_of_sepChain2 (rules : List (Kind × Regex)) : ∀ ts, sepChain2 rules ts = true → sepChain3 rules ts = true
  | [] => fun _ => rfl
  | [_] => fun _ => rfl
  | t :: t' :: rest => by
    intro h
    simp only [sepChain2, Bool.and_eq_true, Bool.or_eq_true] at h
    rw [sepChain3]
    simp only [headSep, Bool.and_eq_true, Bool.or_eq_true]
    exact ⟨.inl h.1, sepChain3_of_sepChain2 rules (t' :: rest) h.2⟩

theorem takesAll_of_sepChain3 (rules : List (Kind × Regex)) : ∀ (ts : List Token),
    (∀ t ∈ ts, Canon rules t) → sepChain3 rules ts = true → TakesAll rules ts
  | [], _, _ => trivial
  | t :: rest, hc, hs => by
    simp only [sepChain3, Bool.and_eq_true] at hs
    obtain ⟨ht, hrest⟩ := List.forall_mem_cons.1 hc
    refine ⟨?_, takesAll_of_sepChain3 rules rest hrest hs.2⟩
    cases rest with
    | nil => exact ht.takes (by simp)
    | cons t' rest' =>
      have h1 := hs.1
      simp only [Bool.or_eq_true] at h1
      rcases h1 with (hsep | hcl) | hah
      · exact ht.takes (by simpa using bestMatch_headSep hsep [] (rest'.flatMap (·.text)))
      · exact ht.takes (bestMatch_closed rules _ _ hcl)
      · exact ⟨ht.1, by simpa using aheadOK_takes rules t 4 _ [] hah⟩

theorem lex_canon_sep3 (rules : List (Kind × Regex)) (ts : List Token)
    (hc : ∀ t ∈ ts, Canon rules t) (hs : sepChain3 rules ts = true) : lex rules (ts.flatMap (·.text)) = some ts :=
  lex_eq_some_iff.2 ⟨rfl, takesAll_of_sepChain3 rules ts hc hs⟩

theorem lexParse_canon_sep3 (rules : List (Kind × Regex)) (ts : List Token) (tree : P.Tree)
    (hd : P.D false (ts.map toTok) tree) (hc : ∀ t ∈ ts, Canon rules t) (hs : sepChain3 rules ts = true) :
    lexParse rules (ts.flatMap (·.text)) = some tree :=
  lexParse_of_takesAll (takesAll_of_sepChain3 rules ts hc hs) hd

/-- **C15 at character level, every token kind (conditional on the decidable local conditions).** -/
theorem C15_char_level3 (rules : List (Kind × Regex)) (ts ts' : List Token) (t t' : P.Tree)
    (hd : P.D false (ts.map toTok) t) (hd' : P.D false (ts'.map toTok) t')
    (hc : ∀ x ∈ ts, Canon rules x) (hc' : ∀ x ∈ ts', Canon rules x)
    (hs : sepChain3 rules ts = true) (hs' : sepChain3 rules ts' = true)
    (hn : (ts.map toTok).map P.norm = (ts'.map toTok).map P.norm) :
    lexParse rules (ts.flatMap (·.text)) = lexParse rules (ts'.flatMap (·.text)) ∧
    lexParse rules (ts.flatMap (·.text)) = some t :=
  C15_of_round_trip hd hd' hn (lexParse_canon_sep3 rules ts t hd hc hs) (lexParse_canon_sep3 rules ts' t' hd' hc' hs')

theorem lex_canon_sep2 (rules : List (Kind × Regex)) (ts : List Token)
    (hc : ∀ t ∈ ts, Canon rules t) (hs : sepChain2 rules ts = true) : lex rules (ts.flatMap (·.text)) = some ts :=
  lex_canon_sep3 rules ts hc (sepChain3_of_sepChain2 rules ts hs)

/-- **C15 at character level, string literals included (conditional on the decidable local conditions).** -/
theorem C15_char_level2 (rules : List (Kind × Regex)) (ts ts' : List Token) (t t' : P.Tree)
    (hd : P.D false (ts.map toTok) t) (hd' : P.D false (ts'.map toTok) t')
    (hc : ∀ x ∈ ts, Canon rules x) (hc' : ∀ x ∈ ts', Canon rules x)
    (hs : sepChain2 rules ts = true) (hs' : sepChain2 rules ts' = true)
    (hn : (ts.map toTok).map P.norm = (ts'.map toTok).map P.norm) :
    lexParse rules (ts.flatMap (·.text)) = lexParse rules (ts'.flatMap (·.text)) ∧
    lexParse rules (ts.flatMap (·.text)) = some t :=
  C15_char_level3 rules ts ts' t t' hd hd' hc hc' (sepChain3_of_sepChain2 rules ts hs) (sepChain3_of_sepChain2 rules ts' hs') hn

theorem lex_canon_sep (rules : List (Kind × Regex)) : ∀ (ts : List Token),
    (∀ t ∈ ts, Canon rules t) → sepChain rules ts = true → lex rules (ts.flatMap (·.text)) = some ts :=
  fun ts hc hs => lex_canon_sep2 rules ts hc (sepChain2_of_sepChain rules ts hs)

theorem lexParse_canon_sep (rules : List (Kind × Regex)) (ts : List Token) (tree : P.Tree)
    (hd : P.D false (ts.map toTok) tree) (hc : ∀ t ∈ ts, Canon rules t) (hs : sepChain rules ts = true) :
    lexParse rules (ts.flatMap (·.text)) = some tree :=
  lexParse_eq_some_iff.2 ⟨ts, lex_canon_sep rules ts hc hs, hd⟩

/-- **C15 at character level (conditional on the local conditions).** Two renderings of rules – token lists that are
canonical and separated for the table, derive trees, and differ only in the spellings the grammar leaves free – are
read back from their *texts* as the same tree. -/
theorem C15_char_level (rules : List (Kind × Regex)) (ts ts' : List Token) (t t' : P.Tree)
    (hd : P.D false (ts.map toTok) t) (hd' : P.D false (ts'.map toTok) t')
    (hc : ∀ x ∈ ts, Canon rules x) (hc' : ∀ x ∈ ts', Canon rules x)
    (hs : sepChain rules ts = true) (hs' : sepChain rules ts' = true)
    (hn : (ts.map toTok).map P.norm = (ts'.map toTok).map P.norm) :
    lexParse rules (ts.flatMap (·.text)) = lexParse rules (ts'.flatMap (·.text)) ∧
    lexParse rules (ts.flatMap (·.text)) = some t :=
  C15_char_level2 rules ts ts' t t' hd hd' hc hc' (sepChain2_of_sepChain rules ts hs) (sepChain2_of_sepChain rules ts' hs') hn

/-- instance on the regenerated table: negative integers and integers with exponents – at the end of the rule, before a
blank and before a parenthesis – and a respelling of the same rule -/
example :
    let ts := [tk 1 "(", tk 22 "x", tk 30 " ", tk 17 "ge", tk 30 " ", tk 5 "-", tk 26 "12", tk 2 ")", tk 30 " ", tk 9 "and", tk 30 " ",
               tk 22 "y", tk 30 " ", tk 16 "<", tk 30 " ", tk 26 "3", tk 27 "e+5", tk 30 " ", tk 9 "or", tk 30 " ", tk 22 "z", tk 30 " ", tk 13 "eq", tk 30 " ", tk 5 "-", tk 26 "7", tk 27 "E+2"]
    let ts' := [tk 1 "(", tk 30 " ", tk 22 "x", tk 30 " ", tk 17 ">=", tk 30 " ", tk 5 "-", tk 26 "12", tk 30 " ", tk 2 ")", tk 30 " \n", tk 9 "and", tk 30 " ",
               tk 22 "y", tk 30 " ", tk 16 "LT", tk 30 " ", tk 26 "3", tk 27 "e+5", tk 30 " ", tk 9 "or", tk 30 " ", tk 22 "z", tk 30 " ", tk 13 "==", tk 30 " ", tk 5 "-", tk 26 "7", tk 27 "E+2"]
    (ts.all (canonB Generated.lexerRules) && sepChain3 Generated.lexerRules ts &&
     ts'.all (canonB Generated.lexerRules) && sepChain3 Generated.lexerRules ts') = true ∧
    lexParse Generated.lexerRules (ts.flatMap (·.text)) = lexParse Generated.lexerRules (ts'.flatMap (·.text)) ∧
    (lexParse Generated.lexerRules (ts.flatMap (·.text))).isSome = true := by
  decide +kernel

end Rules
