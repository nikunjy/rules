/-!
The kernel gets at the characters of a string by decoding its UTF-8 bytes, which costs it about ten times what producing
the bytes does (more when the string is not a literal), and that decoding is most of the evaluation of a fact about a
table of strings. For a string of ASCII bytes the characters are the bytes: `chars`, equal to `String.toList`
(`toList_eq_chars`), is put in its place before such a fact is handed to the kernel.
-/
namespace Rules

def chars (s : String) : List Char :=
  if s.toByteArray.data.toList.all (· < 128) then s.toByteArray.data.toList.map fun b => Char.ofNat b.toNat else s.toList

theorem utf8Encode_ascii : ∀ bs : List UInt8, bs.all (· < 128) = true →
    (bs.map fun b => Char.ofNat b.toNat).utf8Encode = ⟨⟨bs⟩⟩
  | [], _ => rfl
  | b :: bs, h => by
    simp only [List.all_cons, Bool.and_eq_true, decide_eq_true_eq] at h
    have hb : b.toNat < 128 := h.1
    have hv : (Char.ofNat b.toNat).val = b.toUInt32 := by
      rw [Char.ofNat, dif_pos (.inl (by omega))]; rfl
    have h1 : b.toUInt32 ≤ 127 := by
      rw [UInt32.le_iff_toNat_le, UInt8.toNat_toUInt32]; exact Nat.le_of_lt_succ hb
    rw [List.map_cons, List.utf8Encode_cons, List.utf8Encode_singleton, utf8Encode_ascii bs h.2,
      String.utf8EncodeChar_eq_singleton (Char.utf8Size_eq_one_iff.2 (hv ▸ h1)), hv, UInt8.toUInt8_toUInt32]
    rfl

theorem toList_eq_chars (s : String) : s.toList = chars s := by
  unfold chars
  split
  · next h =>
    -- `s` is the string of these characters, as both have the same bytes
    rw [← String.toList_ofList (l := List.map _ _)]
    exact congrArg _ (String.toByteArray_inj.1 (by rw [String.toByteArray_ofList, utf8Encode_ascii _ h]))
  · rfl

end Rules
