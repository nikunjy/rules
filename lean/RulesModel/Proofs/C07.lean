import RulesModel.Proofs.C14
/-!
# C07 — No input can crash the engine: every failure is a returned error

In the model a panic is a value (`Except.error`) and `Process`' `recover()` is the explicit handler in
`processTree`; every model function is total (Lean checks termination – for `NestedError.Error` that needed the
depth invariant, see Model/NestedError.lean). What is left to state: a panic inside the visitor (non-object in a path,
panicking `String()`, failed type assertion) comes out of `Process` as a returned error with verdict false, the
diagnostic and the Stringer calls gathered before the panic being kept (`C07_panic_is_error`); whenever any entry point
reports an error the verdict is false (`C07_error_false`).
Fatal errors of the Go runtime (stack exhaustion, out of memory, deadlock) are not expressible in the model; the
harness explores them in a watched child process.
-/
namespace Rules
open Rules.P (Tree Kind)

theorem C07_panic_is_error (lower : Bytes → Bytes) (t : Tree) (item : List (Bytes × Value)) (p : PanicInfo)
    (h : visit lower t (VState.init item) = .error p) :
    processTree lower t item = { verdict := false, err := some (.panic p.p), debug := p.debug, calls := p.calls } := by
  simp [processTree, h]

theorem C07_outcomes (lower : Bytes → Bytes) (t : Tree) (item : List (Bytes × Value)) :
    ((processTree lower t item).err = none) ∨
    ((processTree lower t item).verdict = false ∧ (processTree lower t item).err ≠ none) :=
  -- `processTree lower t item` is, by unfolding, what `Process` returns on an evaluator that holds `t`
  (Classical.em _).imp_right fun h => ⟨C14_error_false lower ⟨some t, none⟩ item h, h⟩

theorem C07_error_false (rules : List (Kind × Regex)) (lower : Bytes → Bytes) (text : List Char) (item : List (Bytes × Value)) :
    (rulesEvaluate rules lower text item).err ≠ none →
      (rulesEvaluate rules lower text item).verdict = false ∧ parserEvaluate rules lower text item = false := by
  intro h
  exact ⟨C14_error_false lower _ item h, C14_error_false lower _ item h⟩

/-- a panicking Stringer inside a compound rule is a returned error -/
example : (processTree id (.logical "or" (.present ["z"]) (.compare ["x"] 13 (.str "\"a\""))) [(bytesOf "x", .stringer 7 .panics)])
    = { verdict := false, err := some (.panic .stringer), debug := none, calls := [7] } := by decide +kernel
example : (processTree id (.compare ["a", "b"] 13 (.long false "1" none)) [(bytesOf "a", .int 5)]).err = some (.panic .notAMap) := by
  decide +kernel

end Rules
