import RulesModel.Proofs.C02
import RulesModel.Proofs.Outcome
import RulesModel.Proofs.ParseComplete
/-!
# C01 — Compound rules are the Boolean combination of their comparisons

If every comparison of a rule is individually error-free, the rule has no error and its verdict is the plain
truth-functional combination (`boolOf`: `&&`, `||`, `!`) of the comparisons' verdicts – every depth, every mix
(`C01_combination`). A chain written without parentheses parses to the *left* fold, `and` and `or` at the same level
(`C01_chain`); by `D_unique` no other reading exists.
-/
namespace Rules
open Rules.P (Tree Lit Kind Tok D)

theorem C01_combination (lower : Bytes → Bytes) (item : List (Bytes × Value)) (t : Tree)
    (h : ∀ l ∈ leaves t, isVerdict (leafOut lower item l).res = true) :
    (evalOut lower item t).res = .verdict (boolOf (fun l => verdictOf (leafOut lower item l)) t) := by
  induction t with
  | paren neg q ih =>
    have := ih h
    rw [evalOut_paren]
    cases neg <;> simp [boolOf, this]
  | logical op l r ihl ihr =>
    have hl := ihl fun x hx => h x (List.mem_append_left _ hx)
    have hr := ihr fun x hx => h x (List.mem_append_right _ hx)
    rw [evalOut_logical_res, hl, hr, boolOf]
    by_cases hop : op = "or" <;> cases boolOf (fun l => verdictOf (leafOut lower item l)) l <;> simp [hop, neutral]
  | _ =>
    obtain ⟨b, hb⟩ := isVerdict_iff.1 (h _ (List.mem_singleton_self _))
    simp [evalOut, boolOf, verdictOf, hb]

/-- stated on the implementation model: verdict and absence of error of `Process` -/
theorem C01_process (lower : Bytes → Bytes) (item : List (Bytes × Value)) (t : Tree)
    (h : ∀ l ∈ leaves t, (processTree lower l item).err = none) :
    (processTree lower t item).err = none ∧
    (processTree lower t item).verdict = boolOf (fun l => (processTree lower l item).verdict) t := by
  simp only [processTree_eq, toProc_err_eq_none, toProc_verdict] at h ⊢
  have hc := C01_combination lower item t fun l hl => by simpa [evalOut_leaf lower item t l hl] using h l hl
  refine ⟨by simp [hc, isVerdict], ?_⟩
  rw [verdictOf, hc]
  exact boolOf_congr t fun l hl => by rw [evalOut_leaf lower item t l hl]

def chainTree (t0 : Tree) : List (String × Tree) → Tree
  | [] => t0
  | (op, t) :: rest => chainTree (.logical op t0 t) rest

def chainToks (ts0 : List Tok) : List (String × String × String × List Tok) → List Tok
  | [] => ts0
  | (s1, op, s2, ts) :: rest => chainToks (ts0 ++ [⟨P.SP, s1⟩, ⟨P.LOGOP, op⟩, ⟨P.SP, s2⟩] ++ ts) rest

/-- A chain of primaries (parenthesised groups, presence tests, comparisons) joined by `and`/`or` derives the
left-nested tree, whatever the operators are: `a or b and c` ↦ `(a or b) and c`. -/
theorem C01_chain (ts0 : List Tok) (t0 : Tree) (h0 : D false ts0 t0)
    (segs : List (String × String × String × List Tok × Tree))
    (hs : ∀ x ∈ segs, D true x.2.2.2.1 x.2.2.2.2) :
    D false (chainToks ts0 (segs.map fun x => (x.1, x.2.1, x.2.2.1, x.2.2.2.1)))
      (chainTree t0 (segs.map fun x => (x.2.1, x.2.2.2.2))) := by
  induction segs generalizing ts0 t0 with
  | nil => simpa [chainToks, chainTree] using h0
  | cons x rest ih =>
    obtain ⟨s1, op, s2, ts, t⟩ := x
    simp only [List.map_cons, chainToks, chainTree]
    apply ih
    · exact D.logical s1 op s2 h0 (hs (s1, op, s2, ts, t) (by simp))
    · intro y hy; exact hs y (by simp [hy])

/-- … and the parser returns exactly that tree (soundness + completeness + uniqueness of `parse`). -/
theorem C01_chain_parse (ts0 : List Tok) (t0 : Tree) (h0 : D false ts0 t0)
    (segs : List (String × String × String × List Tok × Tree))
    (hs : ∀ x ∈ segs, D true x.2.2.2.1 x.2.2.2.2) :
    P.parse (chainToks ts0 (segs.map fun x => (x.1, x.2.1, x.2.2.1, x.2.2.2.1))) =
      some (chainTree t0 (segs.map fun x => (x.2.1, x.2.2.2.2))) :=
  (P.parse_iff _ _).2 (C01_chain ts0 t0 h0 segs hs)

/-- non-vacuity: `a or b and c` (a true, b true, c false) is `(a or b) and c` = false, not `a or (b and c)` = true -/
example :
    let a := Tree.compare ["a"] 13 (.long false "1" none)
    let b := Tree.compare ["b"] 13 (.long false "1" none)
    let c := Tree.compare ["c"] 13 (.long false "1" none)
    let item := [(bytesOf "a", Value.int 1), (bytesOf "b", .int 1), (bytesOf "c", .int 0)]
    (evalOut id item (chainTree a [("or", b), ("and", c)])).res = .verdict false ∧
    (evalOut id item (.logical "or" a (.paren false (.logical "and" b c)))).res = .verdict true := by
  decide +kernel

end Rules
