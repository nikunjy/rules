import RulesModel.Model.Grammar
/-!
Soundness of the parser. Each parsing function is followed along its own case structure (`fun_induction`, `fun_cases`):
a failing branch has nothing to show, a succeeding one names its derivation. The succeeding branches are picked by the
numbers Lean gives the cases (`case15`, `case3` …), which follow the order of the branches in `Model/Grammar.lean`: an edit
of `parseValue` or `parsePrim` renumbers them (`#check parsePrim.mutual_induct` lists them).
-/
namespace Rules.P

theorem parsePath_sound {ts : List Tok} {p rest} (h : parsePath ts = some (p, rest)) :
    ∃ pre, ts = pre ++ rest ∧ DPath pre p := by
  fun_induction parsePath ts generalizing p rest with
  | case1 n d ts p' r hp ih =>
    cases h
    obtain ⟨pre, rfl, hd⟩ := ih hp
    exact ⟨_ :: _ :: pre, rfl, .dot n d hd⟩
  | case3 n | case5 n => cases h; exact ⟨[_], rfl, .one n⟩
  | _ => cases h

theorem parseList_sound {k : Kind} {ts : List Tok} {xs rest} (h : parseList k ts = some (xs, rest)) :
    ∃ pre, ts = pre ++ rest ∧ DList k pre xs := by
  fun_induction parseList k ts generalizing xs rest with
  | case1 t b => cases h; exact ⟨[_, _], rfl, .last t b⟩
  | case2 t c ts xs' r hl _ ih =>
    cases h
    obtain ⟨pre, rfl, hd⟩ := ih hl
    exact ⟨_ :: _ :: pre, rfl, .cons t c hd⟩
  | _ => cases h

theorem parseValue_sound {ts : List Tok} {v rest} (h : parseValue ts = some (v, rest)) :
    ∃ pre, ts = pre ++ rest ∧ DValue pre v := by
  revert h
  -- `fun_cases` fixes the kind of the head token in each case; splitting the `if`-chain of `parseValue` over an
  -- unknown kind instead costs 2^depth (each `split` simplifies every later `if` twice)
  fun_cases parseValue ts
  case case15 b k t ts hk xs r _ _ _ _ _ _ _ hl =>
    intro h
    rw [hl] at h; cases h
    obtain ⟨pre, hpre, hd⟩ := parseList_sound hl
    exact ⟨⟨LB, b⟩ :: pre, by rw [hpre]; rfl, .list k hk b hd⟩
  case case16 => simp [*]
  all_goals rintro ⟨⟩
  · exact ⟨[_], rfl, .bool _⟩
  · exact ⟨[_], rfl, .null _⟩
  · exact ⟨[_], rfl, .version _⟩
  · exact ⟨[_], rfl, .str _⟩
  · exact ⟨[_], rfl, .double _⟩
  · exact ⟨[_, _], rfl, .long none _ (some _)⟩
  · exact ⟨[_], rfl, .long none _ none⟩
  · exact ⟨[_], rfl, .long none _ none⟩
  · exact ⟨[_, _, _], rfl, .long (some _) _ (some _)⟩
  · exact ⟨[_, _], rfl, .long (some _) _ none⟩
  · exact ⟨[_, _], rfl, .long (some _) _ none⟩

theorem eatOpt_spec {k : Kind} {ts : List Tok} {b : Bool} {r : List Tok} (h : eatOpt k ts = (b, r)) :
    ∃ o : Option String, ts = optTok k o ++ r ∧ b = o.isSome := by
  match ts, h with
  | [], h => cases h; exact ⟨none, rfl, rfl⟩
  | ⟨k1, t⟩ :: ts, h =>
    simp only [eatOpt] at h
    split at h <;> cases h
    · exact ⟨some t, by simp [optTok, *], rfl⟩
    · exact ⟨none, rfl, rfl⟩

theorem parse_mutual_sound :
    (∀ fuel ts, ∀ t rest, parsePrim fuel ts = some (t, rest) → ∃ pre, ts = pre ++ rest ∧ D true pre t) ∧
    (∀ fuel ts, ∀ t rest, parseQuery fuel ts = some (t, rest) → ∃ pre, ts = pre ++ rest ∧ D false pre t) ∧
    (∀ fuel acc ts, ∀ t rest, parseLoop fuel acc ts = some (t, rest) →
        ∀ pre0, D false pre0 acc → ∃ pre, ts = pre ++ rest ∧ D false (pre0 ++ pre) t) := by
  apply parsePrim.mutual_induct
  case case3 =>   -- NOT? SP? ( SP? query SP? )
    intro fuel ts neg ts1 hn _ l ts3 _ ts4 h2 q ts5 hq _ r rest h1 h3 ih t rest' h
    simp [parsePrim, hn, h1, h2, h3, hq] at h
    obtain ⟨rfl, rfl⟩ := h
    obtain ⟨n, rfl, rfl⟩ := eatOpt_spec hn
    obtain ⟨s1, rfl, -⟩ := eatOpt_spec h1
    obtain ⟨s2, rfl, -⟩ := eatOpt_spec h2
    obtain ⟨s3, rfl, -⟩ := eatOpt_spec h3
    obtain ⟨pre, rfl, hd⟩ := ih _ _ hq
    exact ⟨_, by simp, .paren n s1 s2 s3 l r hd⟩
  case case8 =>   -- path SP pr
    intro fuel ts neg ts1 hn _ k _ _ hk hneg p s pr rest h1 hp t rest' h
    simp [parsePrim, hn, h1, hk, hneg, hp] at h
    obtain ⟨rfl, rfl⟩ := h
    obtain ⟨pre, rfl, hd⟩ := parsePath_sound hp
    exact ⟨pre ++ [⟨SP, s⟩, ⟨PR, pr⟩], by simp, .present s pr hd⟩
  case case9 =>   -- path SP op SP value
    intro fuel ts neg ts1 hn _ k _ _ hk hneg p s1 op o hpr hop s2 r3 v r4 hv h1 hp t rest' h
    simp [parsePrim, hn, h1, hk, hneg, hp, hpr, hop, hv] at h
    obtain ⟨rfl, rfl⟩ := h
    obtain ⟨pre, rfl, hd⟩ := parsePath_sound hp
    obtain ⟨prev, rfl, hdv⟩ := parseValue_sound hv
    exact ⟨pre ++ [⟨SP, s1⟩, ⟨op, o⟩, ⟨SP, s2⟩] ++ prev, by simp, .compare s1 o s2 op hop hd hdv⟩
  case case19 =>  -- a primary, then the loop
    intro fuel ts q ts5 hp ihP ihL t rest h
    simp only [parseQuery, hp] at h
    obtain ⟨pre1, rfl, hd1⟩ := ihP _ _ hp
    obtain ⟨pre2, rfl, hd2⟩ := ihL _ _ h pre1 (.prim hd1)
    exact ⟨pre1 ++ pre2, by simp, hd2⟩
  case case22 =>  -- SP LOGOP SP primary, and on
    intro fuel acc k1 s1 k2 op s2 ts hk q ts5 hp ihP ihL t rest h pre0 hacc
    obtain ⟨rfl, rfl⟩ := hk
    simp [parseLoop, hp] at h
    obtain ⟨pre1, rfl, hd1⟩ := ihP _ _ hp
    obtain ⟨pre2, rfl, hd2⟩ := ihL _ _ h _ (.logical s1 op s2 hacc hd1)
    exact ⟨[⟨SP, s1⟩, ⟨LOGOP, op⟩, ⟨SP, s2⟩] ++ pre1 ++ pre2, by simp, by simpa using hd2⟩
  case case24 =>  -- the loop ends: no SP LOGOP ahead
    intro fuel acc k1 s1 k2 op k3 s2 ts hk t rest h pre0 hacc
    simp [parseLoop, hk] at h
    obtain ⟨rfl, rfl⟩ := h
    exact ⟨[], rfl, by simpa using hacc⟩
  case case25 =>  -- the loop ends: fewer than three tokens left
    intro fuel acc ts hts t rest h pre0 hacc
    rw [parseLoop] at h
    · cases h; exact ⟨[], rfl, by simpa using hacc⟩
    · exact hts
  -- the failing branches
  all_goals intros; simp_all [parsePrim, parseQuery, parseLoop]

theorem parse_sound (ts : List Tok) (t : Tree) (h : parse ts = some t) : D false ts t := by
  unfold parse at h
  split at h
  · rename_i t' hq
    cases h
    obtain ⟨pre, hpre, hd⟩ := parse_mutual_sound.2.1 _ _ _ _ hq
    simpa [hpre] using hd
  · cases h

end Rules.P
