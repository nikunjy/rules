import RulesModel.Proofs.C06
import RulesModel.Proofs.C01
/-!
# C17 — Rules obey the laws of Boolean algebra, including failures

For **all** sub-rules A, B, C (any size) and every object, on the compositional semantics `evalOut` (which is what
`Process` computes, `processTree_eq`): double negation, both De Morgan laws and associativity hold as *equalities of
the whole outcome* (verdict or failure, diagnostic and Stringer call order); idempotence and – when A and B cannot
fail – commutativity hold for the outcome class (`sameOutcome`: same verdict, or both fail).
-/
namespace Rules
open Rules.P (Tree Lit Kind)

def sameOutcome (a b : Out) : Prop :=
  match a.res, b.res with
  | .verdict x, .verdict y => x = y
  | .verdict _, _ => False
  | _, .verdict _ => False
  | _, _ => True

theorem sameOutcome_of_res_eq {a b : Out} (h : a.res = b.res) : sameOutcome a b := by
  unfold sameOutcome; rw [h]; cases b.res <;> simp

theorem sameOutcome_of_eq {a b : Out} (h : a = b) : sameOutcome a b := sameOutcome_of_res_eq (h ▸ rfl)

def Not' (t : Tree) : Tree := .paren true t
def And' (a b : Tree) : Tree := .logical "and" a b
def Or' (a b : Tree) : Tree := .logical "or" a b

theorem orElse_assoc (a b c : Option Dbg) :
    (c.orElse fun _ => b.orElse fun _ => a) = ((c.orElse fun _ => b).orElse fun _ => a) := by
  simp [Option.or_assoc]

section
variable (lower : Bytes → Bytes) (item : List (Bytes × Value))
local notation "E" => evalOut lower item

/-! The laws are proved for an arbitrary connective text `op`: anything but `"or"` is a conjunction, as in the visitor. -/

theorem C17_double_negation (A : Tree) : E (Not' (Not' A)) = E A := by
  simp [Not', evalOut_paren]

theorem evalOut_not_logical (op op' : String) (h : neutral op' = !neutral op) (A B : Tree) :
    E (Not' (.logical op A B)) = E (.logical op' (Not' A) (Not' B)) := by
  simp only [Not', evalOut_paren, evalOut_logical, if_true, Out.not_res_eq_verdict, h, Bool.not_not, Out.not_seq,
    Out.seq_not, apply_ite Out.not]

theorem C17_de_morgan_and (A B : Tree) : E (Not' (And' A B)) = E (Or' (Not' A) (Not' B)) :=
  evalOut_not_logical lower item "and" "or" (by decide) A B

theorem C17_de_morgan_or (A B : Tree) : E (Not' (Or' A B)) = E (And' (Not' A) (Not' B)) :=
  evalOut_not_logical lower item "or" "and" (by decide) A B

theorem evalOut_logical_assoc (op : String) (A B C : Tree) :
    E (.logical op (.logical op A B) C) = E (.logical op A (.paren false (.logical op B C))) := by
  simp only [evalOut_paren, evalOut_logical, Bool.false_eq_true, if_false]
  split
  · simp only [Out.seq_res, apply_ite (Out.seq (E A)), Out.seq_assoc]
  · simp only [*]

theorem C17_assoc_and (A B C : Tree) : E (And' (And' A B) C) = E (And' A (.paren false (And' B C))) :=
  evalOut_logical_assoc lower item "and" A B C

theorem C17_assoc_or (A B C : Tree) : E (Or' (Or' A B) C) = E (Or' A (.paren false (Or' B C))) :=
  evalOut_logical_assoc lower item "or" A B C

/-- idempotence, up to the comparisons of `A` being evaluated (and their Stringers called) twice -/
theorem evalOut_logical_self_res (op : String) (A : Tree) : (E (.logical op A A)).res = (E A).res := by
  rw [evalOut_logical_res, ite_self]

theorem C17_idem_and (A : Tree) : sameOutcome (E (And' A A)) (E A) :=
  sameOutcome_of_res_eq (evalOut_logical_self_res lower item "and" A)

theorem C17_idem_or (A : Tree) : sameOutcome (E (Or' A A)) (E A) :=
  sameOutcome_of_res_eq (evalOut_logical_self_res lower item "or" A)

/-- A cannot fail on this object: none of its comparisons fails or panics, reached or not -/
def cannotFail (A : Tree) : Prop := ∀ l ∈ leaves A, isVerdict (leafOut lower item l).res = true

theorem evalOut_logical_comm_res (op : String) (A B : Tree) (ha : cannotFail lower item A) (hb : cannotFail lower item B) :
    (E (.logical op A B)).res = (E (.logical op B A)).res := by
  have h : ∀ A B, cannotFail lower item A → cannotFail lower item B → cannotFail lower item (.logical op A B) :=
    fun A B ha hb l hl => (List.mem_append.1 hl).elim (ha l) (hb l)
  rw [C01_combination lower item _ (h A B ha hb), C01_combination lower item _ (h B A hb ha)]
  simp only [boolOf, Bool.and_comm, Bool.or_comm]

theorem C17_comm_and (A B : Tree) (ha : cannotFail lower item A) (hb : cannotFail lower item B) :
    sameOutcome (E (And' A B)) (E (And' B A)) :=
  sameOutcome_of_res_eq (evalOut_logical_comm_res lower item "and" A B ha hb)

theorem C17_comm_or (A B : Tree) (ha : cannotFail lower item A) (hb : cannotFail lower item B) :
    sameOutcome (E (Or' A B)) (E (Or' B A)) :=
  sameOutcome_of_res_eq (evalOut_logical_comm_res lower item "or" A B ha hb)

end

/-- transported to `Process`: both sides of a law return the same observable result -/
theorem C17_process_de_morgan_and (lower : Bytes → Bytes) (item : List (Bytes × Value)) (A B : Tree) :
    processTree lower (Not' (And' A B)) item = processTree lower (Or' (Not' A) (Not' B)) item := by
  rw [processTree_eq, processTree_eq, C17_de_morgan_and]

theorem C17_process_double_negation (lower : Bytes → Bytes) (item : List (Bytes × Value)) (A : Tree) :
    processTree lower (Not' (Not' A)) item = processTree lower A item := by
  rw [processTree_eq, processTree_eq, C17_double_negation]

/-- an instance: De Morgan where B fails and is reached on one side only if the law were wrong -/
example :
    let A := Tree.compare ["x"] 13 (.long false "1" none)
    let B := Tree.compare ["y"] 15 (.bool "true")
    (evalOut id [(bytesOf "x", .int 2)] (Not' (And' A B))).res = .verdict true ∧
    (evalOut id [(bytesOf "x", .int 1)] (Not' (And' A B))).res = .fail .invalidOperation := by decide +kernel

end Rules
