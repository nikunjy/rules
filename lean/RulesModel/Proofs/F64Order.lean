import RulesModel.Model.F64
import Mathlib.Tactic.Ring
import Mathlib.Tactic.Positivity
import Mathlib.Algebra.Order.Field.Power
import Mathlib.Data.Rat.Defs

/-! The order of the binary64 model in ℚ: `val` sends a finite value to the rational it denotes and the infinities to the
ends of `EQ`, and `F64.lt` is `<` there (`lt_iff`), so the comparison laws of C03 and C18 are those of a linear order. -/
namespace Rules.F64

/-- mathematical value of a finite binary64 -/
def finVal (neg : Bool) (m : Nat) (e : Int) : ℚ := (if neg then -(m : ℚ) else (m : ℚ)) * (2 : ℚ) ^ e

/-- `cmpFin` scales both significands to the smaller exponent `e0`; multiplied by `2 ^ e0` they are the values again -/
theorem cast_scaled (n : Bool) (m : Nat) {e e0 : Int} (h : e0 ≤ e) :
    (((if n then -(m : ℤ) else m) * 2 ^ (e - e0).toNat : ℤ) : ℚ) * 2 ^ e0 = finVal n m e := by
  obtain ⟨k, rfl⟩ := Int.le.dest h
  rw [finVal, zpow_add₀ two_ne_zero, add_sub_cancel_left, Int.toNat_natCast, zpow_natCast]
  push_cast
  ring

theorem cmpFin_eq (n1 : Bool) (m1 : Nat) (e1 : Int) (n2 : Bool) (m2 : Nat) (e2 : Int) :
    cmpFin n1 m1 e1 n2 m2 e2 = compare (finVal n1 m1 e1) (finVal n2 m2 e2) := by
  rw [cmpFin, ← cmp_eq_compare, ← Int.cast_strictMono.cmp_map_eq (β := ℚ),
    ← cmp_mul_pos_right (show (0 : ℚ) < 2 ^ min e1 e2 by positivity),
    cast_scaled _ _ (min_le_left ..), cast_scaled _ _ (min_le_right ..), cmp_eq_compare]

theorem lt_fin_iff (n1 m1 e1 n2 m2 e2) :
    lt (.fin n1 m1 e1) (.fin n2 m2 e2) = true ↔ finVal n1 m1 e1 < finVal n2 m2 e2 := by
  simp only [lt, cmpFin_eq, beq_iff_eq]
  exact compare_lt_iff_lt

theorem eq_fin_iff (n1 m1 e1 n2 m2 e2) :
    eq (.fin n1 m1 e1) (.fin n2 m2 e2) = true ↔ finVal n1 m1 e1 = finVal n2 m2 e2 := by
  simp only [eq, cmpFin_eq, beq_iff_eq]
  exact compare_eq_iff_eq

end Rules.F64
#print axioms Rules.F64.lt_fin_iff

namespace Rules.F64
open Rules

/-- ℚ with a least (−Inf) and a greatest (+Inf) element -/
abbrev EQ := WithBot (WithTop ℚ)

/-- NaN is sent to 0; every statement excludes it -/
def val : F64 → EQ
  | .nan => ((0 : ℚ) : WithTop ℚ)
  | .inf true => ⊥
  | .inf false => ((⊤ : WithTop ℚ) : WithBot (WithTop ℚ))
  | .fin n m e => ((finVal n m e : ℚ) : WithTop ℚ)

theorem lt_iff (a b : F64) (ha : a.isNaN = false) (hb : b.isNaN = false) : lt a b = true ↔ val a < val b :=
  match a, b, ha, hb with
  | .inf na, .inf nb, _, _ => by cases na <;> cases nb <;> simp [lt, val]
  | .inf na, .fin .., _, _ => by cases na <;> simp [lt, val]
  | .fin .., .inf nb, _, _ => by cases nb <;> simp [lt, val, -WithBot.coe_top]  -- `↑⊤` as it stands: `WithTop.coe_lt_top`
  | .fin .., .fin .., _, _ => by simp [lt_fin_iff, val]

theorem eq_iff (a b : F64) (ha : a.isNaN = false) (hb : b.isNaN = false) : eq a b = true ↔ val a = val b :=
  match a, b, ha, hb with
  | .inf na, .inf nb, _, _ => by cases na <;> cases nb <;> simp [eq, val]
  | .inf na, .fin .., _, _ => by cases na <;> simp [eq, val]
  | .fin .., .inf nb, _, _ => by cases nb <;> simp [eq, val]
  | .fin .., .fin .., _, _ => by simp [eq_fin_iff, val]

theorem nan_unordered (a : F64) :
    lt .nan a = false ∧ lt a .nan = false ∧ eq .nan a = false ∧ eq a .nan = false := by
  cases a <;> simp [lt, eq]

/-- `float64(n)` is exact for |n| ≤ 2^53 -/
theorem val_ofInt (n : Int) (h : n.natAbs ≤ 2 ^ 53) : val (ofInt n) = (((n : ℚ) : WithTop ℚ) : EQ) := by
  rw [ofInt, if_pos h, val, finVal, zpow_zero, mul_one]
  rcases lt_or_ge n 0 with hn | hn
  · simp [hn, abs_of_neg hn]
  · simp [not_lt.2 hn, abs_of_nonneg hn]

theorem mkFin_not_nan (neg : Bool) (m : Nat) (e : Int) (f : F64) (h : mkFin neg m e = some f) : f.isNaN = false := by
  unfold mkFin at h
  split at h
  · cases h
  · cases h; rfl

theorem roundRat_not_nan (neg : Bool) (n d : Nat) (f : F64) (h : roundRat neg n d = some f) : f.isNaN = false := by
  by_cases hn : (n == 0) = true
  · rw [roundRat, if_pos hn] at h; cases h; rfl
  · rw [roundRat, if_neg hn] at h; exact mkFin_not_nan _ _ _ _ h

theorem ofInt_not_nan (n : Int) : (ofInt n).isNaN = false := by
  unfold ofInt
  split
  · rfl
  · split
    · rename_i f hf; exact roundRat_not_nan _ _ _ _ hf
    · rfl

end Rules.F64
