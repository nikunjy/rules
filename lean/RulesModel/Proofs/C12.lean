/-!
# C12 — Evaluators on different goroutines do not interfere      (PARTIAL: logic of non-interference only)

Model (DESIGN-round0 §3.11): goroutines own their evaluator values (private state: the calls still to make, an in-flight
call, the results obtained so far); the only shared state is a memo standing for the ANTLR DFA / prediction-context
caches behind `sync.Once`. A call is two atomic steps that other goroutines may interleave with arbitrarily:
`begin` (read the memo, on a miss compute) and `commit` (publish the entry, return the result).
`f k` is what call `k` returns when run alone (for the engine: `processTree` of that rule on that object).

* `C12_interleave_partial` : for **every** schedule, if the memo starts transparent (every entry is what
  recomputation yields) then it stays transparent and every goroutine has obtained, for each call it completed,
  exactly `f` of that call (that the completed calls are those of its program, in program order, is not stated).
* The premise that hand-written code has no package-level mutable state, no goroutines and no sync primitives of its
  own is the tie `RulesModel/Tie/PkgState.lean`, re-extracted from the Go source on every run.

What this model cannot exhibit: Go-memory-model data races, torn reads, the locking inside the ANTLR runtime. Those are
observed only dynamically (race detector, fresh processes) – hence the level `other`.
-/
namespace Rules.Conc

structure Thread where
  todo : List Nat                    -- calls still to make (keys)
  inflight : Option (Nat × Nat)      -- call begun but not committed: key and computed result
  done : List (Nat × Nat)            -- completed calls: key and result, oldest first
  deriving Repr

structure State where
  memo : List (Nat × Nat)
  threads : List Thread
  deriving Repr

def lookup (k : Nat) : List (Nat × Nat) → Option Nat
  | [] => none
  | (k', v) :: rest => if k' = k then some v else lookup k rest

def stepThread (f : Nat → Nat) (memo : List (Nat × Nat)) (t : Thread) : List (Nat × Nat) × Thread :=
  match t.inflight with
  | some (k, v) => ((k, v) :: memo, { t with inflight := none, done := t.done ++ [(k, v)] })      -- commit
  | none =>
    match t.todo with
    | [] => (memo, t)
    | k :: rest =>
      let v := match lookup k memo with | some v => v | none => f k                                -- begin
      (memo, { t with todo := rest, inflight := some (k, v) })

def stepAt (f : Nat → Nat) (st : State) (i : Nat) : State :=
  match st.threads[i]? with
  | none => st
  | some t =>
    let (m, t') := stepThread f st.memo t
    { memo := m, threads := st.threads.set i t' }

def run (f : Nat → Nat) : State → List Nat → State
  | st, [] => st
  | st, i :: sched => run f (stepAt f st i) sched

def Transparent (f : Nat → Nat) (memo : List (Nat × Nat)) : Prop := ∀ kv ∈ memo, kv.2 = f kv.1

def ThreadOK (f : Nat → Nat) (t : Thread) : Prop :=
  (∀ kv ∈ t.done, kv.2 = f kv.1) ∧ (∀ kv, t.inflight = some kv → kv.2 = f kv.1)

def Inv (f : Nat → Nat) (st : State) : Prop := Transparent f st.memo ∧ ∀ t ∈ st.threads, ThreadOK f t

theorem mem_of_lookup {k v : Nat} {memo : List (Nat × Nat)} (h : lookup k memo = some v) : (k, v) ∈ memo := by
  fun_induction lookup k memo with
  | case1 => cases h
  | case2 v' rest => cases h; exact List.mem_cons_self
  | case3 k' v' rest _ ih => exact List.mem_cons_of_mem _ (ih h)

/-- `begin` leaves the memo alone and puts a transparent pair in flight (a hit is transparent because the memo is);
`commit` moves the pair in flight to the memo and to the results -/
theorem stepThread_inv (f : Nat → Nat) (memo : List (Nat × Nat)) (t : Thread) (hm : Transparent f memo) (ht : ThreadOK f t) :
    Transparent f (stepThread f memo t).1 ∧ ThreadOK f (stepThread f memo t).2 := by
  unfold stepThread
  cases hi : t.inflight with
  | some kv =>
    have hv := ht.2 kv hi
    exact ⟨List.forall_mem_cons.2 ⟨hv, hm⟩, List.forall_mem_append.2 ⟨ht.1, List.forall_mem_singleton.2 hv⟩, nofun⟩
  | none =>
    cases t.todo with
    | nil => exact ⟨hm, ht⟩
    | cons k rest =>
      refine ⟨hm, ht.1, fun x hx => ?_⟩
      cases hx
      cases hl : lookup k memo with
      | some v => exact hm _ (mem_of_lookup hl)
      | none => rfl

theorem stepAt_inv (f : Nat → Nat) (st : State) (i : Nat) (h : Inv f st) : Inv f (stepAt f st i) := by
  unfold stepAt
  cases hg : st.threads[i]? with
  | none => exact h
  | some t =>
    have ⟨hm, ht⟩ := stepThread_inv f st.memo t h.1 (h.2 t (List.mem_of_getElem? hg))
    exact ⟨hm, fun t' ht' => (List.mem_or_eq_of_mem_set ht').elim (h.2 t') (· ▸ ht)⟩

/-- **Non-interference under every interleaving.** -/
theorem C12_interleave_partial (f : Nat → Nat) (st : State) (sched : List Nat) (h : Inv f st) :
    Inv f (run f st sched) := by
  induction sched generalizing st with
  | nil => exact h
  | cons i rest ih => exact ih _ (stepAt_inv f st i h)

/-- every completed call of every goroutine returned what it returns when run alone -/
theorem C12_results (f : Nat → Nat) (progs : List (List Nat)) (sched : List Nat) :
    ∀ t ∈ (run f { memo := [], threads := progs.map fun p => { todo := p, inflight := none, done := [] } } sched).threads,
      ∀ kv ∈ t.done, kv.2 = f kv.1 := by
  have h0 : Inv f { memo := [], threads := progs.map fun p => ({ todo := p, inflight := none, done := [] } : Thread) } :=
    ⟨(fun _ h => nomatch h), List.forall_mem_map.2 fun _ _ => ⟨nofun, nofun⟩⟩
  exact fun t ht => ((C12_interleave_partial f _ sched h0).2 t ht).1

/-- non-vacuity: two goroutines, interleaved begin/commit steps on the same key -/
example : ((run (fun k => k * k) { memo := [], threads := [⟨[3, 4], none, []⟩, ⟨[3], none, []⟩] } [0, 1, 0, 1, 0, 0]).threads.map (·.done))
    = [[(3, 9), (4, 16)], [(3, 9)]] := by decide

end Rules.Conc
