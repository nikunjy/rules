import RulesModel.Proofs.LexSigned
/-!
C15 for whole rules: every rendering of a well-formed rule is read back as that rule. `render sty t` writes the tree `t` as
tokens and takes every free choice of the grammar from the style `sty`, an arbitrary function from positions to numbers:
the spelling of `not` and of the ten operators, the optional blanks after `not`, after `(` and before `)`, up to three
newlines after each blank, up to two blanks after a comma (a blank before `(` is written only after `not`). A position is
the list of child numbers (8 left, 9 right or inner) from the node up, with the number of the choice in front; positions
need not be distinct, since every theorem is for all styles. `wf rules cl t`, decidable: every name, literal text and
`and`/`or` of the tree is a canonical token of its kind, string literals pass the test `cl`, the right operand of a
connective is a primary.
-/
namespace Rules.Render
open Rules.P Rules

def tkS (k : Kind) (s : String) : Token := ⟨k, s.toList⟩

theorem toTok_tkS (k : Kind) (s : String) : toTok (tkS k s) = ⟨k, s⟩ := by simp [toTok, tkS]

/-- `n`-th element of the non-empty list `d :: l` (the last one beyond its end) -/
def pick : String → List String → Nat → String
  | d, [], _ => d
  | d, _ :: _, 0 => d
  | _, x :: xs, n + 1 => pick x xs n

theorem pick_mem : ∀ (d : String) (l : List String) (n : Nat), pick d l n ∈ d :: l
  | d, [], _ => by simp [pick]
  | d, _ :: _, 0 => by simp [pick]
  | d, x :: xs, n + 1 => List.mem_cons_of_mem d (pick_mem x xs n)

def spSpell : List String := [" ", " \n", " \n\n", " \n\n\n"]
def notSpell : List String := ["not", "NOT"]
def commaSpell : List String := [",", ", ", ",  "]
def cmpSpell (k : Kind) : List String :=
  if k = 12 then ["in", "IN"] else if k = 13 then ["eq", "EQ", "=="] else if k = 14 then ["ne", "NE", "!="]
  else if k = 15 then ["gt", "GT", ">"] else if k = 16 then ["lt", "LT", "<"] else if k = 17 then ["ge", "GE", ">="]
  else if k = 18 then ["le", "LE", "<="] else if k = 19 then ["co", "CO"] else if k = 20 then ["sw", "SW"]
  else if k = 21 then ["ew", "EW"] else []

def pickL (l : List String) (n : Nat) : String :=
  match l with
  | [] => ""
  | d :: r => pick d r n

theorem pickL_mem (l : List String) (n : Nat) (h : l ≠ []) : pickL l n ∈ l := by
  cases l with
  | nil => exact absurd rfl h
  | cons d r => exact pick_mem d r n

def allSpellings : List (Kind × String) :=
  (spSpell.map (fun s => (SP, s))) ++ (notSpell.map (fun s => (NOT, s))) ++ (commaSpell.map (fun s => (COMMA, s))) ++
  ((List.range 10).flatMap (fun i => (cmpSpell (12 + i)).map (fun s => (12 + i, s)))) ++
  [(LP, "("), (RP, ")"), (LB, "["), (RB, "]"), (DOT, "."), (PR, "pr"), (NULL, "null"), (MINUS, "-")]

def spellOK (rules : List (Kind × Regex)) : Bool := allSpellings.all (fun p => canonB rules (tkS p.1 p.2))

abbrev Sty := List Nat → Nat

def spTok (c : Nat) : Token := tkS SP (pickL spSpell c)
def optSp (c : Nat) : Option String := if c % 2 = 0 then none else some (pickL spSpell (c / 2))
def optToks (k : Kind) (o : Option String) : List Token := o.toList.map (tkS k)

theorem optToks_toTok (k : Kind) (o : Option String) : (optToks k o).map toTok = optTok k o := by
  cases o <;> simp [optToks, optTok, toTok_tkS]

def renderPath : List String → List Token
  | [] => []
  | [n] => [tkS ATTR n]
  | n :: m :: rest => tkS ATTR n :: tkS DOT "." :: renderPath (m :: rest)

def renderElems (sty : Sty) (pos : List Nat) (k : Kind) : List String → List Token
  | [] => []
  | [x] => [tkS k x, tkS RB "]"]
  | x :: y :: rest => tkS k x :: tkS COMMA (pickL commaSpell (sty (rest.length :: 7 :: pos))) :: renderElems sty pos k (y :: rest)

def renderLit (sty : Sty) (pos : List Nat) : Lit → List Token
  | .bool t => [tkS BOOLEAN t]
  | .null => [tkS NULL "null"]
  | .version t => [tkS VERSION t]
  | .str t => [tkS STRING t]
  | .double t => [tkS DOUBLE t]
  | .long neg i e => (if neg then [tkS MINUS "-"] else []) ++ [tkS INT i] ++ e.toList.map (tkS EXP)
  | .list k xs => tkS LB "[" :: renderElems sty pos k xs

def render (sty : Sty) : List Nat → Tree → List Token
  | pos, .paren neg q =>
    let n : Option String := if neg then some (pickL notSpell (sty (0 :: pos))) else none
    let s1 : Option String := if neg then optSp (sty (1 :: pos)) else none
    optToks NOT n ++ optToks SP s1 ++ [tkS LP "("] ++ optToks SP (optSp (sty (2 :: pos))) ++ render sty (9 :: pos) q ++
      optToks SP (optSp (sty (3 :: pos))) ++ [tkS RP ")"]
  | pos, .logical op l r =>
    render sty (8 :: pos) l ++ [spTok (sty (0 :: pos)), tkS LOGOP op, spTok (sty (1 :: pos))] ++ render sty (9 :: pos) r
  | pos, .present path => renderPath path ++ [spTok (sty (0 :: pos)), tkS PR "pr"]
  | pos, .compare path k v =>
    renderPath path ++ [spTok (sty (0 :: pos)), tkS k (pickL (cmpSpell k) (sty (1 :: pos))), spTok (sty (2 :: pos))] ++
      renderLit sty pos v

def text (ts : List Token) : List Char := ts.flatMap (·.text)

def okTok (rules : List (Kind × Regex)) (cl : List Char → Bool) (k : Kind) (s : String) : Bool :=
  canonB rules (tkS k s) && (k != STRING || cl s.toList)

def wfPath (rules : List (Kind × Regex)) (cl : List Char → Bool) (p : List String) : Bool := !p.isEmpty && p.all (okTok rules cl ATTR)

def wfLit (rules : List (Kind × Regex)) (cl : List Char → Bool) : Lit → Bool
  | .bool t => okTok rules cl BOOLEAN t
  | .null => true
  | .version t => okTok rules cl VERSION t
  | .str t => okTok rules cl STRING t
  | .double t => okTok rules cl DOUBLE t
  | .long _ i e => okTok rules cl INT i && e.all (okTok rules cl EXP)
  | .list k xs => (k == INT || k == DOUBLE || k == STRING) && !xs.isEmpty && xs.all (okTok rules cl k)

def isPrimary : Tree → Bool
  | .logical .. => false
  | _ => true

def wf (rules : List (Kind × Regex)) (cl : List Char → Bool) : Tree → Bool
  | .paren _ q => wf rules cl q
  | .logical op l r => okTok rules cl LOGOP op && wf rules cl l && wf rules cl r && isPrimary r
  | .present p => wfPath rules cl p
  | .compare p k v => wfPath rules cl p && isCmp k && wfLit rules cl v

theorem renderPath_D : ∀ (p : List String), p ≠ [] → DPath ((renderPath p).map toTok) p
  | [], h => absurd rfl h
  | [n], _ => by simpa [renderPath, toTok_tkS] using DPath.one n
  | n :: m :: rest, _ => by
    simpa [renderPath, toTok_tkS] using DPath.dot n "." (renderPath_D (m :: rest) (by simp))

theorem renderElems_D (sty : Sty) (pos : List Nat) (k : Kind) : ∀ (xs : List String), xs ≠ [] →
    DList k ((renderElems sty pos k xs).map toTok) xs
  | [], h => absurd rfl h
  | [x], _ => by simpa [renderElems, toTok_tkS] using DList.last (k := k) x "]"
  | x :: y :: rest, _ => by
    simpa [renderElems, toTok_tkS] using DList.cons (k := k) x _ (renderElems_D sty pos k (y :: rest) (by simp))

section
variable {rules : List (Kind × Regex)} {cl : List Char → Bool}

theorem wfPath_iff {p : List String} : wfPath rules cl p = true ↔ p ≠ [] ∧ p.all (okTok rules cl ATTR) = true := by
  simp [wfPath]

theorem renderLit_D (sty : Sty) (pos : List Nat) {v : Lit} (h : wfLit rules cl v = true) :
    DValue ((renderLit sty pos v).map toTok) v := by
  cases v with
  | long neg i e =>
    have := DValue.long (if neg then some "-" else none) i e
    cases neg <;> cases e <;> simpa [renderLit, toTok_tkS] using this
  | list k xs =>
    simp only [wfLit, Bool.and_eq_true, Bool.or_eq_true, beq_iff_eq, Bool.not_eq_true', List.isEmpty_eq_false_iff] at h
    simpa [renderLit, toTok_tkS] using DValue.list k (by simpa [or_assoc] using h.1.1) "[" (renderElems_D sty pos k xs h.1.2)
  -- the other literals are single tokens
  | _ => simpa [renderLit, toTok_tkS] using by constructor
end

theorem render_D (rules : List (Kind × Regex)) (cl : List Char → Bool) (sty : Sty) : ∀ (t : Tree) (pos : List Nat), wf rules cl t = true →
    D false ((render sty pos t).map toTok) t ∧ (isPrimary t = true → D true ((render sty pos t).map toTok) t) := by
  -- a primary that derives as `D true` also derives as `D false`
  have prim : ∀ {t : Tree} {ts}, D true ts t → D false ts t ∧ (isPrimary t = true → D true ts t) :=
    fun key => ⟨D.prim key, fun _ => key⟩
  intro t
  induction t with
  | paren neg q ih =>
    intro pos h
    have hq := (ih (9 :: pos) (by simpa only [wf] using h)).1
    refine prim ?_
    simp only [render, List.map_append, List.map_cons, List.map_nil, optToks_toTok, toTok_tkS]
    cases neg with
    | false => simpa using D.paren none none (optSp (sty (2 :: pos))) (optSp (sty (3 :: pos))) "(" ")" hq
    | true =>
      simpa using D.paren (some (pickL notSpell (sty (0 :: pos)))) (optSp (sty (1 :: pos))) (optSp (sty (2 :: pos)))
        (optSp (sty (3 :: pos))) "(" ")" hq
  | logical op l r ihl ihr =>
    intro pos h
    simp only [wf, Bool.and_eq_true] at h
    refine ⟨?_, fun hprim => by simp [isPrimary] at hprim⟩
    simp only [render, List.map_append, List.map_cons, List.map_nil, spTok, toTok_tkS]
    exact D.logical _ op _ (ihl (8 :: pos) h.1.1.2).1 ((ihr (9 :: pos) h.1.2).2 h.2)
  | present p =>
    intro pos h
    refine prim ?_
    simp only [render, List.map_append, List.map_cons, List.map_nil, spTok, toTok_tkS]
    exact D.present _ "pr" (renderPath_D p (wfPath_iff.1 h).1)
  | compare p k v =>
    intro pos h
    simp only [wf, Bool.and_eq_true] at h
    refine prim ?_
    simp only [render, List.map_append, List.map_cons, List.map_nil, spTok, toTok_tkS]
    exact D.compare _ _ _ k h.1.2 (renderPath_D p (wfPath_iff.1 h.1.1).1) (renderLit_D sty pos h.2)

/-! The token lists are appends and conses of single tokens, so `∀ x ∈ …, TokGood x` splits along them (`List.forall_mem_append`,
`List.forall_mem_cons`) into one goal per token: a name or literal of the tree (`good_okTok`, from `wf`) or one of the
renderer's own spellings (`good_spelling`, from `spellOK`). -/
def TokGood (rules : List (Kind × Regex)) (cl : List Char → Bool) (x : Token) : Prop :=
  Canon rules x ∧ (x.kind = STRING → cl x.text = true)

section
variable {rules : List (Kind × Regex)} {cl : List Char → Bool}

theorem good_okTok {k : Kind} {s : String} (h : okTok rules cl k s = true) : TokGood rules cl (tkS k s) := by
  simp only [okTok, Bool.and_eq_true, Bool.or_eq_true, bne_iff_ne] at h
  exact ⟨canon_of_canonB rules _ h.1, fun e => h.2.resolve_left (· e)⟩

theorem good_all {k : Kind} {l : List String} (h : l.all (okTok rules cl k) = true) : ∀ s ∈ l, TokGood rules cl (tkS k s) :=
  fun s hs => good_okTok (List.all_eq_true.1 h s hs)

theorem spell_kind_ne : ∀ p ∈ allSpellings, p.1 ≠ STRING := by decide

theorem good_spelling (h : spellOK rules = true) {k : Kind} {s : String} (hm : (k, s) ∈ allSpellings) :
    TokGood rules cl (tkS k s) :=
  ⟨canon_of_canonB rules _ (List.all_eq_true.1 h (k, s) hm), fun e => absurd e (spell_kind_ne _ hm)⟩

theorem good_pick (h : spellOK rules = true) {k : Kind} {l : List String} (hl : l ≠ [])
    (hm : ∀ s ∈ l, (k, s) ∈ allSpellings) (c : Nat) : TokGood rules cl (tkS k (pickL l c)) :=
  good_spelling h (hm _ (pickL_mem l c hl))

theorem cmp_mem {k : Nat} (hk : isCmp k = true) (c : Nat) : (k, pickL (cmpSpell k) c) ∈ allSpellings := by
  have hk' : 12 ≤ k ∧ k ≤ 21 := by simpa [isCmp] using hk
  obtain ⟨i, hi, rfl⟩ : ∃ i, i < 10 ∧ k = 12 + i := ⟨k - 12, by omega, by omega⟩
  have := pickL_mem (cmpSpell (12 + i)) c ((by decide : ∀ j, j < 10 → cmpSpell (12 + j) ≠ []) i hi)
  simp only [allSpellings, List.mem_append, List.mem_flatMap, List.mem_range, List.mem_map]
  exact .inl (.inr ⟨i, hi, _, this, rfl⟩)

variable (hsp : spellOK rules = true)
include hsp

theorem good_sp (c : Nat) : TokGood rules cl (tkS SP (pickL spSpell c)) := good_pick hsp (by decide) (by decide) c

theorem good_optSp (c : Nat) : ∀ x ∈ optToks SP (optSp c), TokGood rules cl x := by
  unfold optSp
  split <;> simp [optToks, good_sp hsp]

theorem good_path : ∀ (p : List String), p.all (okTok rules cl ATTR) = true → ∀ x ∈ renderPath p, TokGood rules cl x
  | [], _ => by simp [renderPath]
  | [n], h => by simpa [renderPath] using good_all h
  | n :: m :: rest, h => by
    simp only [List.all_cons, Bool.and_eq_true] at h
    simp only [renderPath, List.forall_mem_cons]
    exact ⟨good_okTok h.1, good_spelling hsp (by decide), good_path (m :: rest) (by simpa using h.2)⟩

theorem good_elems (sty : Sty) (pos : List Nat) (k : Kind) : ∀ (xs : List String), xs.all (okTok rules cl k) = true →
    ∀ x ∈ renderElems sty pos k xs, TokGood rules cl x
  | [], _ => by simp [renderElems]
  | [a], h => by
    simp only [renderElems, List.forall_mem_cons]
    exact ⟨good_all h a (by simp), good_spelling hsp (by decide), by simp⟩
  | a :: b :: rest, h => by
    simp only [List.all_cons, Bool.and_eq_true] at h
    simp only [renderElems, List.forall_mem_cons]
    exact ⟨good_okTok h.1, good_pick hsp (by decide) (by decide) _, good_elems sty pos k (b :: rest) (by simpa using h.2)⟩

theorem good_lit (sty : Sty) (pos : List Nat) {v : Lit} (h : wfLit rules cl v = true) :
    ∀ x ∈ renderLit sty pos v, TokGood rules cl x := by
  cases v with
  | null => simpa [renderLit] using good_spelling hsp (by decide)
  | bool t | version t | str t | double t => simpa [renderLit] using good_okTok h
  | long neg i e =>
    simp only [wfLit, Bool.and_eq_true] at h
    simp only [renderLit, List.forall_mem_append, List.forall_mem_singleton, List.forall_mem_map, Option.mem_toList]
    refine ⟨⟨?_, good_okTok h.1⟩, fun a ha => good_okTok (by simpa [ha] using h.2)⟩
    cases neg <;> simp [good_spelling hsp (by decide : (MINUS, "-") ∈ allSpellings)]
  | list k xs =>
    simp only [wfLit, Bool.and_eq_true] at h
    simp only [renderLit, List.forall_mem_cons]
    exact ⟨good_spelling hsp (by decide), good_elems hsp sty pos k xs h.2⟩

end

theorem render_good (rules : List (Kind × Regex)) (cl : List Char → Bool) (hsp : spellOK rules = true) (sty : Sty) : ∀ (t : Tree) (pos : List Nat),
    wf rules cl t = true → ∀ x ∈ render sty pos t, TokGood rules cl x := by
  intro t
  induction t with
  | paren neg q ih =>
    intro pos h
    simp only [render, List.forall_mem_append, List.forall_mem_singleton]
    -- one goal per part of `NOT? SP? ( SP? q SP? )`
    refine ⟨⟨⟨⟨⟨⟨?not, ?sp1⟩, ?lp⟩, ?sp2⟩, ?q⟩, ?sp3⟩, ?rp⟩
    case not => cases neg <;> simp [optToks, good_pick hsp (k := NOT) (l := notSpell) (by decide) (by decide)]
    case sp1 =>
      cases neg
      · simp [optToks]
      · exact good_optSp hsp _
    case lp => exact good_spelling hsp (by decide : (LP, "(") ∈ allSpellings)
    case sp2 | sp3 => exact good_optSp hsp _
    case q => exact ih (9 :: pos) (by simpa only [wf] using h)
    case rp => exact good_spelling hsp (by decide : (RP, ")") ∈ allSpellings)
  | logical op l r ihl ihr =>
    intro pos h
    simp only [wf, Bool.and_eq_true] at h
    simp only [render, List.forall_mem_append, List.forall_mem_cons]
    exact ⟨⟨ihl (8 :: pos) h.1.1.2, good_sp hsp _, good_okTok h.1.1.1, good_sp hsp _, by simp⟩, ihr (9 :: pos) h.1.2⟩
  | present p =>
    intro pos h
    simp only [render, List.forall_mem_append, List.forall_mem_cons]
    exact ⟨good_path hsp p (wfPath_iff.1 h).2, good_sp hsp _, good_spelling hsp (by decide), by simp⟩
  | compare p k v =>
    intro pos h
    simp only [wf, Bool.and_eq_true] at h
    simp only [render, List.forall_mem_append, List.forall_mem_cons]
    exact ⟨⟨good_path hsp p (wfPath_iff.1 h.1.1).2, good_sp hsp _, good_spelling hsp (cmp_mem h.1.2 _), good_sp hsp _, by simp⟩,
      good_lit hsp sty pos h.2⟩

/-- the facts about the table the round trip needs. For the table regenerated on this run the first two are evaluated by
the kernel (`adj_separated_all`, `int_follow`); the third is proved in `Proofs/C15SignedTable.lean` from the shapes of the
INT, DOUBLE and VERSION rules -/
structure TableOK (rules : List (Kind × Regex)) : Prop where
  adj : adjTableOKS rules = true
  follow : intFollowOK rules = true
  signed : SignedOK rules

/-- **Every rendering of a well-formed rule is read back as that rule**, whatever test `cl` the tree's string literals pass,
as long as it makes them closed. `C15_render` takes the executable test `extClosed`, `C15_sentences` (every string literal
the lexer produces is closed) the trivial one. -/
theorem render_roundtrip {rules : List (Kind × Regex)} (htab : TableOK rules) (hsp : spellOK rules = true)
    {cl : List Char → Bool} (hcl : ∀ x : Token, Canon rules x → x.kind = STRING → cl x.text = true → ClosedP rules x.text)
    {t : Tree} (h : wf rules cl t = true) (sty : Sty) :
    lexParse rules (text (render sty [] t)) = some t :=
  have hg := render_good rules cl hsp sty t [] h
  lexParse_tokensQ rules htab.adj htab.follow htab.signed (render sty [] t) t (render_D rules cl sty t [] h).1
    (fun x hx => (hg x hx).1) (fun x hx hk => hcl x (hg x hx).1 hk ((hg x hx).2 hk))

/-- **Every rendering of a well-formed rule is read back as that rule.** -/
theorem C15_render (rules : List (Kind × Regex)) (htab : TableOK rules) (hsp : spellOK rules = true)
    (t : Tree) (h : wf rules (extClosed rules) t = true) (sty : Sty) :
    lexParse rules (text (render sty [] t)) = some t :=
  render_roundtrip htab hsp (fun x _ _ hx rest => bestMatch_closed rules x.text rest hx) h sty

/-- any two styles of one rule are read as the same tree … -/
theorem C15_render_styles (rules : List (Kind × Regex)) (htab : TableOK rules) (hsp : spellOK rules = true)
    (t : Tree) (h : wf rules (extClosed rules) t = true) (sty sty' : Sty) :
    lexParse rules (text (render sty [] t)) = lexParse rules (text (render sty' [] t)) := by
  rw [C15_render rules htab hsp t h sty, C15_render rules htab hsp t h sty']

/-- … and therefore have the same outcome – verdict or failure, diagnostic, Stringer calls – on every object -/
theorem C15_render_process (rules : List (Kind × Regex)) (htab : TableOK rules) (hsp : spellOK rules = true)
    (t : Tree) (h : wf rules (extClosed rules) t = true) (sty sty' : Sty) (lower : Bytes → Bytes) (item : List (Bytes × Value)) :
    (lexParse rules (text (render sty [] t))).map (fun tr => processTree lower tr item) =
    (lexParse rules (text (render sty' [] t))).map (fun tr => processTree lower tr item) := by
  rw [C15_render_styles rules htab hsp t h sty sty']

theorem spell_table : spellOK Generated.lexerRules = true := by decide +kernel

/-- for the shipped grammar -/
theorem C15_render_generated (hsig : SignedOK Generated.lexerRules) (t : Tree)
    (h : wf Generated.lexerRules (extClosed Generated.lexerRules) t = true) (sty : Sty) :
    lexParse Generated.lexerRules (text (render sty [] t)) = some t :=
  C15_render Generated.lexerRules ⟨adj_separated_all, int_follow, hsig⟩ spell_table t h sty

/-- non-vacuity: a rule with negation, nesting, paths, both connectives, a string literal with escaped quotes, a list of
decimals, a version and a signed integer with exponent is well-formed, and two different styles really produce different
texts -/
def sample : Tree :=
  .logical "or"
    (.logical "and"
      (.paren true (.compare ["name"] 19 (.str "\"Ann \\\"B\\\"\"")))
      (.compare ["a", "b-c", "d"] 12 (.list DOUBLE ["1.5", "-2.0e3", "0.25"])))
    (.paren false (.logical "and" (.present ["x", "y"])
      (.paren true (.logical "and" (.logical "or" (.compare ["v"] 17 (.version "1.2.3")) (.compare ["n"] 14 (.long false "42" none))) (.compare ["m", "k"] 16 (.long true "120" (some "e+3")))))))

example : wf Generated.lexerRules (extClosed Generated.lexerRules) sample = true := by decide +kernel
example : text (render (fun _ => 0) [] sample) ≠ text (render (fun p => p.length + 1) [] sample) := by decide +kernel
example : lexParse Generated.lexerRules (text (render (fun p => 3 * p.length + p.headD 0) [] sample)) = some sample := by
  decide +kernel

end Rules.Render
