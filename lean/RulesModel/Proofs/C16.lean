import RulesModel.Proofs.C06
import RulesModel.Proofs.C10
/-!
# C16 — LastDebugErr tells exactly when a comparison could not be decided

A comparison is `undecidable` when its typed operation returns an operand error (attribute absent, type or format the
literal cannot be compared with, operator unsupported for the literal); it has a diagnostic iff it is undecidable, and
presence tests and null tests never have one (`C16_leaf`, `C16_null_decided`).
The printable-text part of C16 (`Error()` non-empty, never panics) is total by construction in the model
(the repaired `ErrInvalidOperand.Error` prints the operand's type, `%T`, when printing its value panics); it is checked on the implementation by the harness.
-/
namespace Rules
open Rules.P (Tree Lit Kind)

def undecidable (lower : Bytes → Bytes) (item : List (Bytes × Value)) : Tree → Prop
  | .compare path k lit =>
    ∃ v kind r op e c, denote item path = .ok v ∧ litOperand lit = some (kind, r) ∧ cmpOfKind k = some op ∧
      apply lower kind op v r = .err e c
  | _ => False

theorem C16_leaf (lower : Bytes → Bytes) (item : List (Bytes × Value)) (t : Tree) :
    (leafOut lower item t).dbg.isSome = true ↔ undecidable lower item t := by
  fun_cases leafOut lower item t
  -- the two exits with an operand error have a diagnostic and are undecidable by their own hypotheses
  case case8 hd _ _ hl _ hk _ ha | case9 hd _ _ hl _ hk _ _ _ ha => exact iff_of_true rfl ⟨_, _, _, _, _, _, hd, hl, hk, ha⟩
  -- no other exit has a diagnostic: a presence test or a non-leaf is never undecidable, and what makes a comparison
  -- undecidable contradicts the hypotheses of the exit
  all_goals refine iff_of_false nofun ?_
  case case1 | case2 | case10 => simp [undecidable]
  all_goals rintro ⟨_, _, _, _, _, _, h1, h2, h3, h4⟩; simp_all

/-- null tests and presence tests are always decided -/
theorem C16_null_decided (lower : Bytes → Bytes) (item : List (Bytes × Value)) (path : List String) (eqne : Bool) :
    (leafOut lower item (.compare path (if eqne then 13 else 14) .null)).dbg = none := by
  cases h : denote item path with
  | error p => simp only [leafOut, h]
  | ok v =>
    cases eqne
    · exact congrArg Out.dbg (C10_null_ne lower item path v h)
    · exact congrArg Out.dbg (C10_null_eq lower item path v h)

theorem C16_present_decided (lower : Bytes → Bytes) (item : List (Bytes × Value)) (path : List String) :
    (leafOut lower item (.present path)).dbg = none := by
  simp only [leafOut]; split <;> rfl

/-- the diagnostic of a rule is that of the last reached comparison that has one -/
theorem dbg_isSome_iff (lower : Bytes → Bytes) (item : List (Bytes × Value)) (t : Tree) :
    (evalOut lower item t).dbg.isSome = true ↔ ∃ l ∈ reached lower item t, (leafOut lower item l).dbg.isSome = true := by
  induction t with
  | paren neg q ih => rw [reached_paren, evalOut_paren]; split <;> simpa using ih
  | logical op l r ihl ihr =>
    rw [evalOut_logical, reached_logical]
    split
    · simp only [Out.seq_dbg, Option.isSome_or, Bool.or_eq_true, ihl, ihr, List.mem_append, or_and_right, exists_or]
      exact or_comm
    · exact ihl
  | _ => simp [evalOut, reached]

/-- **C16.** `LastDebugErr()` is non-nil exactly when some comparison that was actually reached could not be decided –
for every call, also one that ends in a recovered panic (with repair D10 `Process` keeps the diagnostic gathered before
the panic). -/
theorem C16_iff (lower : Bytes → Bytes) (item : List (Bytes × Value)) (t : Tree) :
    (processTree lower t item).debug.isSome = true ↔ ∃ l ∈ reached lower item t, undecidable lower item l := by
  simp only [processTree_eq, toProc_debug, dbg_isSome_iff, C16_leaf]

/-- non-vacuity of the panic case: `x eq 1 or s eq "a"` with `x` absent and `s` a Stringer whose `String()` panics –
the call ends in a recovered panic and the diagnostic of the first comparison is still reported -/
example : (processTree id (.logical "or" (.compare ["x"] 13 (.long false "1" none)) (.compare ["s"] 13 (.str "\"a\"")))
    [(bytesOf "s", .stringer 7 .panics)]) = { verdict := false, err := some (.panic .stringer), debug := some .missing, calls := [7] } := by
  decide +kernel

theorem C16_decided_nil (lower : Bytes → Bytes) (item : List (Bytes × Value)) (t : Tree)
    (h : ∀ l ∈ reached lower item t, ¬ undecidable lower item l) :
    (processTree lower t item).debug = none := by
  rw [← Option.not_isSome_iff_eq_none, Bool.not_eq_true, ← Bool.not_eq_true, C16_iff]
  exact fun ⟨l, hl, hu⟩ => h l hl hu

/-- non-vacuity: `x le 1.5` on x = "s" (the D7 witness) is undecidable and has a diagnostic -/
example : (evalOut id [(bytesOf "x", .str (bytesOf "s"))] (.compare ["x"] 18 (.double "1.5"))).dbg = some .invalidOperand := by
  decide +kernel

end Rules
