import RulesModel.Proofs.Refine
import RulesModel.Proofs.OpsLemmas
/-!
# C09 — Version literals compare by semantic-version precedence

`Sv.parse` / `Version.cmp` transcribe blang/semver v3.5.1 `Parse` / `Compare` (validated against the library by the
correspondence on every run). `Version.cmp` is lexicographic in major, minor, patch (as numbers, so 1.10.0 > 1.9.0) and
the pre-release lists (`cmp_eq_then`), hence a total preorder in three-way form (`good_version`). Components are < 2^64:
beyond that the library rejects the string (known finding).
-/
namespace Rules.Sv

theorem good_cmpBytes : Good cmpBytes := by
  have : cmpBytes = lexCmp compare := by
    funext a b
    fun_induction cmpBytes a b <;> simp [lexCmp, Nat.compare_eq_ite_lt, *]
  exact this ▸ good_lex _ good_nat

theorem good_ident : Good Ident.cmp where
  swap a b := by
    cases a <;> cases b <;> simp only [Ident.cmp, Ordering.swap]
    · exact good_nat.swap _ _
    · exact good_cmpBytes.swap _ _
  trans_lt a b d h1 h2 := by
    cases a <;> cases b <;> cases d <;> simp_all [Ident.cmp]
    · exact good_nat.trans_lt _ _ _ h1 h2
    · exact good_cmpBytes.trans_lt _ _ _ h1 h2
  eq_trans_l a b d h := by
    cases a <;> cases b <;> cases d <;> simp_all [Ident.cmp]
    exact good_cmpBytes.eq_trans_l _ _ _ h

theorem good_cmpPre : Good cmpPre := by
  have : cmpPre = lexCmp Ident.cmp := by
    funext a b
    fun_induction cmpPre a b <;> simp [lexCmp, *]
  exact this ▸ good_lex _ good_ident

theorem good_bool : Good (compare : Bool → Bool → Ordering) := ⟨by decide, by decide, by decide⟩

/-- `isEmpty`: a version without pre-release identifiers (a release) sorts above its pre-releases -/
theorem cmp_eq_then (v o : Version) :
    v.cmp o = (compare v.major o.major).then ((compare v.minor o.minor).then ((compare v.patch o.patch).then
      ((compare v.pre.isEmpty o.pre.isEmpty).then (cmpPre v.pre o.pre)))) := by
  have natIf (a b : Nat) (X : Ordering) : (if a ≠ b then compare a b else X) = (compare a b).then X := by
    simp only [ne_eq, ← Nat.compare_eq_eq (a := a)]
    cases compare a b <;> rfl
  simp only [Version.cmp, natIf]
  cases v.pre <;> cases o.pre <;> rfl

/-- **`Compare` is a total preorder** (in the three-way form; build metadata does not take part) -/
theorem good_version : Good Version.cmp := by
  rw [show Version.cmp = _ from funext fun v => funext (cmp_eq_then v)]
  exact (good_nat.on Version.major).lex ((good_nat.on Version.minor).lex ((good_nat.on Version.patch).lex
    ((good_bool.on fun v => v.pre.isEmpty).lex (good_cmpPre.on Version.pre))))

theorem cmp_eq_lt_iff (v o : Version) : v.cmp o = .lt ↔
    v.major < o.major ∨ v.major = o.major ∧ (v.minor < o.minor ∨ v.minor = o.minor ∧ (v.patch < o.patch ∨
      v.patch = o.patch ∧ (compare v.pre.isEmpty o.pre.isEmpty).then (cmpPre v.pre o.pre) = .lt)) := by
  rw [cmp_eq_then, Ordering.then_eq_lt, Ordering.then_eq_lt, Ordering.then_eq_lt]
  simp only [Nat.compare_eq_lt, Nat.compare_eq_eq]

theorem cmp_major_lt (v o : Version) (h : v.major < o.major) : v.cmp o = .lt :=
  (cmp_eq_lt_iff v o).2 (.inl h)

theorem cmp_minor_lt (v o : Version) (h0 : v.major = o.major) (h : v.minor < o.minor) : v.cmp o = .lt :=
  (cmp_eq_lt_iff v o).2 (.inr ⟨h0, .inl h⟩)

theorem cmp_patch_lt (v o : Version) (h0 : v.major = o.major) (h1 : v.minor = o.minor) (h : v.patch < o.patch) :
    v.cmp o = .lt :=
  (cmp_eq_lt_iff v o).2 (.inr ⟨h0, .inr ⟨h1, .inl h⟩⟩)

/-- a pre-release sorts below its release -/
theorem pre_lt_release (v : Version) (h : v.pre ≠ []) : v.cmp { v with pre := [] } = .lt := by
  refine (cmp_eq_lt_iff _ _).2 (.inr ⟨rfl, .inr ⟨rfl, .inr ⟨rfl, ?_⟩⟩⟩)
  cases hp : v.pre with
  | nil => exact absurd hp h
  | cons x xs => rfl

/-- build metadata is ignored -/
theorem build_ignored (v o : Version) (b1 b2 : List (List Nat)) :
    ({ v with build := b1 } : Version).cmp { o with build := b2 } = v.cmp o := rfl

end Rules.Sv

namespace Rules
open Rules.P (Tree Lit Kind)

/-- **C09.** String attribute holding a semantic version (components < 2^64) against a version literal -/
theorem C09_precedence_u64 (lower : Bytes → Bytes) (op : CmpOp) (hop : isRelational op = true) (a r : Bytes)
    (va vr : Sv.Version) (ha : Sv.parse (natBytes a) = some va) (hr : Sv.parse (natBytes r) = some vr) :
    apply lower .version op (.str a) (.str r) = .ok (verRel op (va.cmp vr)) [] := by
  simp only [apply, versionOp_eq hop, getStringR, ha, hr]

/-- anything else – absent, not a Go string (a Stringer included), or a string that is not a semantic version –
makes all six relational operators false, without error -/
theorem C09_other (lower : Bytes → Bytes) (op : CmpOp) (hop : isRelational op = true) (left : Value) (r : Bytes)
    (h : ∀ a, left = .str a → Sv.parse (natBytes a) = none) :
    ∃ e, apply lower .version op left (.str r) = .err e [] ∧ e ≠ .invalidOperation := by
  simp only [apply, versionOp_eq hop, getStringR]
  cases left with
  | str a => exact ⟨.other, by simp only [h a rfl], by simp⟩
  | _ => exact ⟨.invalidOperand, rfl, by simp⟩

theorem verRel_laws (o : Ordering) :
    verRel .ne o = !verRel .eq o ∧ verRel .le o = (verRel .lt o || verRel .eq o) ∧ verRel .ge o = (verRel .gt o || verRel .eq o) := by
  cases o <;> decide

def sv (s : String) : Option Sv.Version := Sv.parse (natBytes (bytesOf s))

/-- the statement's examples: numeric components, pre-release below release, build ignored, near-misses rejected -/
example : (do let a ← sv "1.10.0"; let b ← sv "1.9.0"; pure (a.cmp b)) = some .gt := by decide +kernel
example : (do let a ← sv "1.0.0-beta"; let b ← sv "1.0.0"; pure (a.cmp b)) = some .lt := by decide +kernel
example : (do let a ← sv "1.0.0+build.5"; let b ← sv "1.0.0"; pure (a.cmp b)) = some .eq := by decide +kernel
example : sv "1.0" = none ∧ sv "v1.0.0" = none ∧ sv "1.0.0." = none ∧ sv "01.0.0" = none ∧ sv "1.0.0-" = none := by
  decide +kernel
example : sv "18446744073709551616.0.0" = none ∧ (sv "18446744073709551615.0.0").isSome = true := by decide +kernel

end Rules
