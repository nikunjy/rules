import RulesModel.Proofs.Refine
/-!
The *pinned* (unrepaired) definitions with counter-examples evaluated by the kernel (DESIGN §7): the model-side replays
of the defects repaired by the `fix:` commits in /repo (known_findings.txt); the corresponding inputs run first in the
harness.
-/
namespace Rules.Regress
open Rules Rules.P

/-- D1: `VisitAttrPath` as pinned – on a nil step it returned without touching `leftOp` and the stack -/
def visitAttrPathOld (s : VState) : List String → VM VState
  | [] => .ok s
  | [k] =>
    let (item, stack') : Value × List Value := match s.stack with
      | top :: rest => (top, rest)
      | [] => (.obj s.item, [])
    match item with
    | .null => .ok { s with stack := stack' }
    | .obj kvs => .ok { s with leftOp := Value.get kvs (bytesOf k), stack := [] }
    | _ => .error ⟨.notAMap, s.calls, s.debugErr⟩
  | k :: k' :: ks =>
    let item : Value := match s.stack with
      | top :: _ => top
      | [] => .obj s.item
    match item with
    | .null => .ok s
    | .obj kvs => visitAttrPathOld { s with stack := Value.get kvs (bytesOf k) :: s.stack } (k' :: ks)
    | _ => .error ⟨.notAMap, s.calls, s.debugErr⟩

/-- `y == 1 and x.a == 1` on `{y:1}`: after the first comparison the left operand register holds 1; the pinned
path walk for `x.a` leaves it there (x is missing), so the second comparison sees 1 – the spec says `null`. -/
theorem D1_left_operand_leaks :
    (visitAttrPathOld { VState.init [(bytesOf "y", .int 1)] with leftOp := .int 1 } ["x", "a"]).toOption.map (fun s => s.leftOp.isNull)
      = some false ∧
    (visitAttrPath { VState.init [(bytesOf "y", .int 1)] with leftOp := .int 1 } ["x", "a"]).toOption.map (fun s => s.leftOp.isNull)
      = some true := by decide +kernel

/-- … and the stack is left non-empty: `x.a.b.c` with `x = {a: nil}` leaves `[nil, x]` behind, so the next path is
resolved inside `x` instead of the root object -/
theorem D1_stack_leaks :
    (visitAttrPathOld (VState.init [(bytesOf "x", .obj [(bytesOf "a", .null)])]) ["x", "a", "b", "c"]).toOption.map (fun s => s.stack.length)
      = some 2 := by decide +kernel

/-- D3: `toInt` as pinned truncated a float64 attribute (Go `int(val)`), so 1.7 compared equal to 1. The truncation itself
is not modelled: the witness only says that 1 = 1 as integers while 1.7 = 7656119366529843·2^-52 and 1 differ as floats. -/
theorem D3_truncation_witness : intRel .eq 1 1 = true ∧ floatRel .eq (.fin false 7656119366529843 (-52)) (F64.ofInt 1) = false := by
  decide +kernel

/-- D6: `IntOperation.IN` as pinned accepted only a Go `int` attribute -/
def intInOld (left : Value) (l : List Int) : OpRes :=
  match left with
  | .int a => .ok (l.any (· == a)) []
  | _ => .err .invalidOperand []

theorem D6_in_stricter_than_eq :
    intInOld (.float (F64.ofInt 1)) [1, 2] = .err .invalidOperand [] ∧ intOp .in_ (.float (F64.ofInt 1)) (.ints [1, 2]) = .ok true [] ∧
    intOp .eq (.float (F64.ofInt 1)) (.int 1) = .ok true [] := by decide +kernel

/-- D2: without the `hasErr` guard after the left operand, the right operand was visited with the registers of the
failed comparison; with the guard a failure is final (`C06_final_logical`). Witness on the repaired model: -/
theorem D2_failure_is_final :
    (processTree id (.logical "or" (.logical "or" (.compare ["a"] 15 .null) (.compare ["b"] 18 (.str "\"bc\"")))
        (.compare ["k"] 12 (.list INT ["1"]))) []).err = some .invalidOperation := by decide +kernel

/-- D7: `FloatOperation.LE` as pinned returned `(false, nil)` on an operand error, so no diagnostic was recorded -/
theorem D7_le_reports_operand_error :
    floatOp .le (.str [115]) (.float (.fin false 3 (-1))) = .err .invalidOperand [] ∧
    floatOp .lt (.str [115]) (.float (.fin false 3 (-1))) = .err .invalidOperand [] := by decide +kernel

end Rules.Regress
