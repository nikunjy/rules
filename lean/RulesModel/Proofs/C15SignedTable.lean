import RulesModel.Proofs.LexSigned
/-!
`SignedOK` for the table regenerated from JsonQuery.g4. It holds of any table that passes a syntactic classification of
its rules (`signedOK_of_facts`): the only rule of kind 5 is `'-'`, the only rule of kind 26 is `INT : '0' | [1-9][0-9]*`; a
rule that can start with `-` is `'-'` or `'-'? INT '.' …`; a rule that can start with a digit is `INT`, `INT '.' …` or
`'-'? INT '.' …`. The classification of the regenerated table is evaluated by the kernel (`table_facts`); the rest is
reasoning about those shapes for digit strings of every length (`no_reach`).
-/
namespace Rules.Signed
open Rules Rules.Regex

def intRe : Regex := .alt (.range 48 48) (.seq (.range 49 57) (.star (.range 48 57)))

def isDigit (c : Char) : Prop := 48 ≤ c.toNat ∧ c.toNat ≤ 57

/-- `a '.' …` with `a = INT` -/
def dottedB : Regex → Bool
  | .seq a (.seq (.range 46 46) _) => a == intRe
  | _ => false
/-- `'-'? INT '.' …` -/
def signedDottedB : Regex → Bool
  | .seq (.alt (.range 45 45) .eps) r => dottedB r
  | _ => false
def noDigitFirst (r : Regex) : Bool := (List.range' 48 10).all (fun d => !(firstChars r).mem d)

def factKinds (kr : Kind × Regex) : Bool := (kr.1 != 5 || kr.2 == .range 45 45) && (kr.1 != 26 || kr.2 == intRe)
def factMinus (kr : Kind × Regex) : Bool := !(firstChars kr.2).mem 45 || kr.2 == .range 45 45 || signedDottedB kr.2
def factDigit (kr : Kind × Regex) : Bool := noDigitFirst kr.2 || kr.2 == intRe || dottedB kr.2 || signedDottedB kr.2

theorem table_facts :
    Generated.lexerRules.all (fun kr => factKinds kr && factMinus kr && factDigit kr) = true ∧
    bestMatch Generated.lexerRules ['-'] = some (P.MINUS, 1) := by
  decide +kernel

theorem int_shape {w : List Char} (h : Matches intRe w) : w ≠ [] ∧ ∀ c ∈ w, isDigit c := by
  refine ⟨?_, ?_⟩
  · rintro rfl
    have := (nullable_iff intRe).2 h
    simp [intRe, nullable] at this
  · intro c hc
    have := charsOf_sound h c hc
    simp only [intRe, charsOf, CSet.mem, List.cons_append, List.nil_append, List.any_cons, List.any_nil, Bool.or_false,
      Bool.or_eq_true, Bool.and_eq_true, decide_eq_true_eq] at this
    unfold isDigit
    omega

-- stated once: a `match r, hr with` on the shape inside the proofs below makes the elaborator refute every other
-- constructor pattern of `Regex` against `hr`, which costs ten times the rest of the proof
theorem dottedB_eq {r : Regex} (h : dottedB r = true) : ∃ tl, r = .seq intRe (.seq (.range 46 46) tl) := by
  unfold dottedB at h
  split at h
  · exact ⟨_, by rw [beq_iff_eq.1 h]⟩
  · cases h

theorem signedDottedB_eq {r : Regex} (h : signedDottedB r = true) :
    ∃ r', r = .seq (.alt (.range 45 45) .eps) r' ∧ dottedB r' = true := by
  unfold signedDottedB at h
  split at h
  · exact ⟨_, rfl, h⟩
  · cases h

theorem dotted_shape {r : Regex} (hr : dottedB r = true) {w : List Char} (h : Matches r w) :
    ∃ ds dot q, w = ds ++ dot :: q ∧ ds ≠ [] ∧ (∀ c ∈ ds, isDigit c) ∧ dot.toNat = 46 := by
  obtain ⟨tl, rfl⟩ := dottedB_eq hr
  simp only [matches_seq_iff, matches_char_iff] at h
  obtain ⟨ds, s2, rfl, hds, s3, q, rfl, ⟨dot, rfl, hdot⟩, _⟩ := h
  obtain ⟨hne, hdig⟩ := int_shape hds
  exact ⟨ds, dot, q, by simp, hne, hdig, hdot⟩

theorem signed_shape {r : Regex} (hr : signedDottedB r = true) {w : List Char} (h : Matches r w) :
    ∃ sg ds dot q, w = sg ++ (ds ++ dot :: q) ∧ (sg = [] ∨ ∃ m, sg = [m] ∧ m.toNat = 45) ∧ ds ≠ [] ∧
      (∀ c ∈ ds, isDigit c) ∧ dot.toNat = 46 := by
  obtain ⟨r', rfl, hr'⟩ := signedDottedB_eq hr
  simp only [matches_seq_iff (a := .alt (.range 45 45) .eps), matches_alt_iff, matches_char_iff, matches_eps_iff] at h
  obtain ⟨sg, s2, rfl, hsg, h2⟩ := h
  obtain ⟨ds, dot, q, rfl, hne, hdig, hdot⟩ := dotted_shape hr' h2
  exact ⟨sg, ds, dot, q, rfl, hsg.symm, hne, hdig, hdot⟩

def FollowOK (r : List Char) : Prop := ∀ c, r.head? = some c → nonDigitDot c.toNat = true

theorem nonDigitDot_spec {c : Char} (h : nonDigitDot c.toNat = true) : ¬ isDigit c ∧ c.toNat ≠ 46 := by
  simp only [nonDigitDot, Bool.and_eq_true, Bool.not_eq_true', Bool.and_eq_false_iff, decide_eq_false_iff_not,
    bne_iff_ne] at h
  unfold isDigit
  omega

theorem digits_prefix {it r u v : List Char} (hr : FollowOK r) (hu : ∀ c ∈ u, isDigit c) (he : it ++ r = u ++ v) :
    u <+: it := by
  rcases List.append_eq_append_iff.1 he with ⟨a, rfl, ha⟩ | ⟨b, rfl, -⟩
  · cases a with
    | nil => simp
    | cons c a => exact absurd (hu c (by simp)) (nonDigitDot_spec (hr c (by simp [ha]))).1
  · exact ⟨b, rfl⟩

/-- `longest_append` with the extensions written as `rest.take n` -/
theorem longest_prefix_closed (r : Regex) (w rest : List Char)
    (h : ∀ n, 0 < n → n ≤ rest.length → ¬ Matches r (w ++ rest.take n)) :
    longest r (w ++ rest) = longest r w :=
  longest_append r w rest fun u hu hp => by
    rw [List.prefix_iff_eq_take.1 hp]
    exact h _ (List.length_pos_iff.2 hu) hp.length_le

/-- **a digit string followed by a non-digit, non-dot cannot be continued to `digits '.' …`** -/
theorem digits_dot : ∀ (ds it : List Char) (dot : Char) (z r : List Char),
    (∀ c ∈ ds, isDigit c) → (∀ c ∈ it, isDigit c) → dot.toNat = 46 → FollowOK r →
    it ++ r = ds ++ dot :: z → False := by
  intro ds it dot z r hds hit hdot hr he
  -- `ds` lies within `it`, so the dot is a character of `it` or the first of `r`
  obtain ⟨b, rfl⟩ := digits_prefix hr hds he
  rw [List.append_assoc, List.append_cancel_left_eq] at he
  cases b with
  | nil => exact (nonDigitDot_spec (hr dot (by simp [show r = dot :: z from he]))).2 hdot
  | cons c b =>
    have : isDigit dot := by cases he; exact hit dot (by simp)
    unfold isDigit at this
    omega

/-- **no rule of a classified table reaches over a digit string**: let `u` be a non-empty piece of text read off the
front of digits `it` followed by a non-digit, non-dot. With a `-` in front no rule matches; without, only within `it`. -/
theorem no_reach {kr : Kind × Regex} (hm : factMinus kr = true) (hd : factDigit kr = true) {it r u v : List Char}
    (hne : it ≠ []) (hit : ∀ c ∈ it, isDigit c) (hr : FollowOK r) (hu : u ≠ []) (he : it ++ r = u ++ v) :
    ¬ Matches kr.2 ('-' :: u) ∧ (Matches kr.2 u → u <+: it) := by
  obtain ⟨d, it', rfl⟩ := List.exists_cons_of_ne_nil hne
  obtain ⟨d', u', rfl⟩ := List.exists_cons_of_ne_nil hu
  obtain rfl : d = d' := by simpa using (List.cons.inj he).1
  have hdig : isDigit d := hit d (by simp)
  have h45 : ('-' : Char).toNat = 45 := rfl
  -- `u = ds ++ '.' :: q` is impossible
  have dotted : ∀ {ds dot q}, (∀ c ∈ ds, isDigit c) → dot.toNat = 46 → d :: u' = ds ++ dot :: q → False :=
    fun hds hdot e => digits_dot _ _ _ _ r hds hit hdot hr (by rw [he, e, List.append_assoc]; rfl)
  simp only [factMinus, factDigit, noDigitFirst, Bool.or_eq_true, Bool.not_eq_true', beq_iff_eq] at hm hd
  constructor
  · intro hmat
    rcases hm with (h | h) | h
    · have := firstChars_sound hmat
      rw [h45, h] at this; cases this
    · rw [h, matches_char_iff] at hmat
      obtain ⟨c, e, _⟩ := hmat
      cases e
    · obtain ⟨sg, ds, dot, q, e, hsg, hdne, hds, hdot⟩ := signed_shape h hmat
      rcases hsg with rfl | ⟨m, rfl, _⟩
      · -- a digit string does not start with `-`
        obtain ⟨c, ds', rfl⟩ := List.exists_cons_of_ne_nil hdne
        have := hds c (by simp)
        rw [← (List.cons.inj e).1] at this
        unfold isDigit at this; omega
      · exact dotted hds hdot (List.cons.inj e).2
  · intro hmat
    rcases hd with ((h | h) | h) | h
    · have := firstChars_sound hmat
      have h2 := List.all_eq_true.1 h d.toNat (by unfold isDigit at hdig; simp only [List.mem_range'_1]; omega)
      rw [this] at h2; cases h2
    · rw [h] at hmat
      exact digits_prefix hr (int_shape hmat).2 he
    · obtain ⟨ds, dot, q, e, _, hds, hdot⟩ := dotted_shape h hmat
      exact (dotted hds hdot e).elim
    · obtain ⟨sg, ds, dot, q, e, hsg, _, hds, hdot⟩ := signed_shape h hmat
      rcases hsg with rfl | ⟨m, rfl, hm45⟩
      · exact (dotted hds hdot e).elim
      · cases e
        unfold isDigit at hdig; omega

theorem signedOK_of_facts (rules : List (Kind × Regex))
    (hf : rules.all (fun kr => factKinds kr && factMinus kr && factDigit kr) = true)
    (hminus : bestMatch rules ['-'] = some (P.MINUS, 1)) : SignedOK rules := by
  have facts : ∀ kr ∈ rules, (factKinds kr = true ∧ factMinus kr = true) ∧ factDigit kr = true := by
    simpa only [List.all_eq_true, Bool.and_eq_true] using hf
  -- the rule of a canonical token of kind 5 / 26 is the one `factKinds` names
  have rule : ∀ {x : Token}, Canon rules x → (x.kind = P.MINUS → Matches (.range 45 45) x.text) ∧
      (x.kind = P.INT → Matches intRe x.text) := by
    intro x hc
    obtain ⟨kr, hkr, e1, e2⟩ := hc.rule
    have := (facts kr hkr).1.1
    simp only [factKinds, Bool.and_eq_true, Bool.or_eq_true, bne_iff_ne, beq_iff_eq, e1] at this
    exact ⟨fun hk => (this.1.resolve_left (· hk)) ▸ e2, fun hk => (this.2.resolve_left (· hk)) ▸ e2⟩
  refine ⟨fun x hc hk => ?_, fun i r hc hk hr => ?_⟩
  · obtain ⟨c, e, h⟩ := matches_char_iff.1 ((rule hc).1 hk)
    rw [e, show c = '-' from Char.toNat_inj.1 h]
  · obtain ⟨hne, hdig⟩ := int_shape ((rule hc).2 hk)
    constructor
    · rw [← hminus]
      refine bestMatch_append rules ['-'] _ fun kr hkr u hu ⟨v, hv⟩ => ?_
      exact (no_reach (facts kr hkr).1.2 (facts kr hkr).2 hne hdig hr hu hv.symm).1
    · rw [← hk, ← canon_bestMatch rules i hc]
      refine bestMatch_append rules _ _ fun kr hkr u hu ⟨v, hv⟩ hmat => hu ?_
      have := (no_reach (facts kr hkr).1.2 (facts kr hkr).2 hne hdig hr (u := i.text ++ u) (by simp [hne])
        (by rw [List.append_assoc, hv])).2 hmat
      have := this.length_le
      rw [List.length_append] at this
      exact List.eq_nil_of_length_eq_zero (by omega)

theorem signed_ok : SignedOK Generated.lexerRules := signedOK_of_facts _ table_facts.1 table_facts.2

/-- non-vacuity: `-` is taken alone before the integer token `120`, the integer before an exponent, the exponent before a blank -/
example : bestMatch Generated.lexerRules "-120e+5 ".toList = some (P.MINUS, 1) ∧
    bestMatch Generated.lexerRules "120e+5 ".toList = some (P.INT, 3) ∧
    bestMatch Generated.lexerRules "e+5 ".toList = some (P.EXP, 3) := by decide +kernel

end Rules.Signed
