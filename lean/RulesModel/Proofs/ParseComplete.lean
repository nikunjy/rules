import RulesModel.Proofs.ParseSound
import RulesModel.Proofs.ParseStep
/-!
Completeness of the parser, hence `parse_iff` and `D_unique`. A derivation is followed with the fuel counted explicitly
(`MainT`, `MainF`), for an arbitrary continuation `rest` that cannot extend the last path or integer (`noDotExp`). `noLoop
rest`: `rest` does not start another turn of the loop; `nsegs t`: the connectives on the left spine of `t`, the turns the
loop takes. The fuel `2 * ts.length + 2` of `parse` is what `MainF` asks for at the top.
-/
namespace Rules.P

/-- the continuation does not start with a token that would extend a path or an integer literal -/
def noDotExp (rest : List Tok) : Prop := NotHead DOT rest ∧ NotHead EXP rest

def noLoop (rest : List Tok) : Prop := ∀ k1 t1 k2 t2 r, rest = ⟨k1, t1⟩ :: ⟨k2, t2⟩ :: r → ¬ (k1 = SP ∧ k2 = LOGOP)

theorem noDotExp_cons {k : Kind} (h1 : k ≠ DOT) (h2 : k ≠ EXP) (t : String) (r : List Tok) : noDotExp (⟨k, t⟩ :: r) :=
  ⟨.cons h1 t r, .cons h2 t r⟩

theorem parsePath_complete {pre p} (h : DPath pre p) : ∀ {rest}, NotHead DOT rest → parsePath (pre ++ rest) = some (p, rest) := by
  induction h with
  | one n =>
    intro rest hr
    match rest, hr with
    | [], _ => rfl
    | ⟨k2, d⟩ :: r, hr =>
      have : k2 ≠ DOT := by rintro rfl; exact hr d r rfl
      simp [parsePath, this]
  | dot n d _ ih => intro rest hr; simp [parsePath, ih hr]

theorem DList_kind {k pre xs} (h : DList k pre xs) : ∃ t r, pre = ⟨k, t⟩ :: r := by
  cases h <;> exact ⟨_, _, rfl⟩

theorem parseList_complete {k pre xs} (h : DList k pre xs) : ∀ rest, parseList k (pre ++ rest) = some (xs, rest) := by
  induction h with
  | last t b => intro rest; simp [parseList]
  | cons t c _ ih => intro rest; simp [parseList, ih rest, COMMA, RB]

theorem parseValue_complete {pre v} (h : DValue pre v) {rest : List Tok} (hr : NotHead EXP rest) :
    parseValue (pre ++ rest) = some (v, rest) := by
  cases h with
  | long m i e =>
    show parseValue (optTok MINUS m ++ [⟨INT, i⟩] ++ optTok EXP e ++ rest) = _
    rw [List.append_assoc, List.append_assoc, List.singleton_append, parseValue_long, takeOpt_optTok e hr]
  | list k hk b hl =>
    obtain ⟨t, r, rfl⟩ := DList_kind hl
    show parseValue (⟨LB, b⟩ :: ⟨k, t⟩ :: (r ++ rest)) = _
    rw [parseValue_list, if_pos hk, ← List.cons_append, parseList_complete hl rest]
  | _ => rfl

def nsegs : Tree → Nat
  | .logical _ l _ => nsegs l + 1
  | _ => 0

theorem D_true_nsegs {pre t} (h : D true pre t) : nsegs t = 0 := by
  cases h <;> simp_all [nsegs]

theorem DPath_head {pre p} (h : DPath pre p) : ∃ n r, pre = ⟨ATTR, n⟩ :: r := by cases h <;> exact ⟨_, _, rfl⟩

theorem D_length {b pre t} (h : D b pre t) : 2 * nsegs t + 1 ≤ pre.length := by
  induction h with
  | paren n s1 s2 s3 l r _ _ => simp [nsegs]; omega
  | present s pr hp => simp [nsegs]
  | compare s1 o s2 k hk hp hv => simp [nsegs]; omega
  | prim _ ih => exact ih
  | logical s1 op s2 _ _ ih1 ih2 => simp [nsegs]; omega

theorem parseLoop_exit {fuel : Nat} {acc : Tree} {rest : List Tok} (h : noLoop rest) :
    parseLoop (fuel + 1) acc rest = some (acc, rest) := by
  unfold parseLoop
  split
  · rename_i k1 s1 k2 op k3 s2 r
    have := h k1 s1 k2 op _ rfl
    simp [this]
  · rfl

theorem parsePrim_drop_SP {f : Nat} {s : String} {ts : List Tok} {x} (h : parsePrim f (⟨SP, s⟩ :: ts) = some x) :
    parsePrim f ts = some x := by
  match f, ts, h with
  | f + 1, ⟨k, l⟩ :: ts3, h =>
    -- the blank is eaten; what follows must be `(`, since a leaf does not begin with a blank
    by_cases hk : k = LP
    · subst hk; exact (parsePrim_paren f none none l ts3).trans ((parsePrim_paren f none (some s) l ts3).symm.trans h)
    · simp [parsePrim, eatOpt, NOT, SP, hk, parsePath, ATTR] at h

theorem parseQuery_drop_SP {f : Nat} {s : String} {ts : List Tok} {x} (h : parseQuery f (⟨SP, s⟩ :: ts) = some x) :
    parseQuery f ts = some x := by
  match f, h with
  | f + 1, h =>
    simp only [parseQuery] at h ⊢
    split at h
    · cases h
    · next hp => rw [parsePrim_drop_SP hp]; exact h

/-- a blank in front of a group can be dropped, so the optional blank after `(` may be the group's own or belong to the
query inside -/
theorem parseQuery_takeOpt_SP {f : Nat} (s2 : Option String) {ts : List Tok} {x} (h : parseQuery f ts = some x) :
    parseQuery f (takeOpt SP (optTok SP s2 ++ ts)).2 = some x := by
  match s2, ts, h with
  | some s, _, h => exact h
  | none, [], h => exact h
  | none, ⟨k, s⟩ :: ts, h =>
    by_cases hk : k = SP
    · subst hk; simpa [optTok, takeOpt] using parseQuery_drop_SP h
    · simpa [optTok, takeOpt, hk] using h

/-! `F` is the fuel a primary is parsed with; `G` the fuel left for the loop after a query with `nsegs t` connectives:
`parseQuery` spends one unit on its primary and one per turn of the loop. -/

def MainT (pre : List Tok) (t : Tree) : Prop :=
  ∀ rest F, noDotExp rest → 2 * pre.length ≤ F → parsePrim F (pre ++ rest) = some (t, rest)
def MainF (pre : List Tok) (t : Tree) : Prop :=
  ∀ rest G, noDotExp rest → 2 * pre.length ≤ G + nsegs t → parseQuery (G + nsegs t + 1) (pre ++ rest) = parseLoop G t rest

theorem paren_main (n s1 s2 s3 : Option String) (l r : String) {ts t} (ih : MainF ts t) (hlen : 2 * nsegs t + 1 ≤ ts.length) :
    MainT (optTok NOT n ++ optTok SP s1 ++ [⟨LP, l⟩] ++ optTok SP s2 ++ ts ++ optTok SP s3 ++ [⟨RP, r⟩]) (.paren n.isSome t) := by
  intro rest F hrest hF
  simp only [List.length_append, List.length_cons, List.length_nil] at hF
  obtain ⟨g, rfl⟩ : ∃ g, F = (g + 1 + nsegs t + 1) + 1 := ⟨F - nsegs t - 3, by omega⟩
  -- what follows the query inside: it ends the query's loop and is eaten up to `)`
  have htail : takeOpt SP (optTok SP s3 ++ ⟨RP, r⟩ :: rest) = (s3, ⟨RP, r⟩ :: rest) := takeOpt_optTok s3 (.cons (by decide) r rest)
  have hfollow : noDotExp (optTok SP s3 ++ ⟨RP, r⟩ :: rest) ∧ noLoop (optTok SP s3 ++ ⟨RP, r⟩ :: rest) := by
    cases s3
    · exact ⟨noDotExp_cons (by decide) (by decide) _ _, fun _ _ _ _ _ h => by cases h; simp [RP, SP]⟩
    · exact ⟨noDotExp_cons (by decide) (by decide) _ _, fun _ _ _ _ _ h => by cases h; simp [RP, LOGOP]⟩
  have hq : parseQuery (g + 1 + nsegs t + 1) (ts ++ (optTok SP s3 ++ ⟨RP, r⟩ :: rest)) =
      some (t, optTok SP s3 ++ ⟨RP, r⟩ :: rest) := by
    rw [ih _ _ hfollow.1 (by omega)]; exact parseLoop_exit hfollow.2
  have e : optTok NOT n ++ optTok SP s1 ++ [⟨LP, l⟩] ++ optTok SP s2 ++ ts ++ optTok SP s3 ++ [⟨RP, r⟩] ++ rest
      = optTok NOT n ++ optTok SP s1 ++ ⟨LP, l⟩ :: (optTok SP s2 ++ (ts ++ (optTok SP s3 ++ ⟨RP, r⟩ :: rest))) := by simp
  rw [e, parsePrim_paren, parseQuery_takeOpt_SP s2 hq]
  simp only [htail, if_true]

theorem complete_all {b pre t} (h : D b pre t) : if b then MainT pre t else MainF pre t := by
  induction h with
  | paren n s1 s2 s3 l r hq ih => exact paren_main n s1 s2 s3 l r ih (D_length hq)
  | present s pr hp =>
    intro rest F hrest hF
    obtain ⟨n, r, rfl⟩ := DPath_head hp
    obtain ⟨F, rfl⟩ : ∃ f, F = f + 1 := ⟨F - 1, by simp at hF; omega⟩
    exact parsePrim_present F (by simpa using parsePath_complete hp (.cons (by decide) s _))
  | @compare s1 o s2 k hk ps p vs v hp hv =>
    intro rest F hrest hF
    obtain ⟨n, r, rfl⟩ := DPath_head hp
    obtain ⟨F, rfl⟩ : ∃ f, F = f + 1 := ⟨F - 1, by simp at hF; omega⟩
    exact parsePrim_compare F (by simpa using parsePath_complete hp (.cons (by decide) s1 _)) hk
      (parseValue_complete hv hrest.2)
  | @prim ts t hd ih =>
    intro rest G hrest hG
    rw [D_true_nsegs hd] at hG ⊢
    simp only [parseQuery, ih rest G hrest hG]
  | @logical s1 op s2 ts1 t1 ts2 t2 h1 h2 ih1 ih2 =>
    intro rest G hrest hG
    have hl1 := D_length h1
    simp only [List.length_append, List.length_cons, List.length_nil, nsegs] at hG
    have e : ts1 ++ [⟨SP, s1⟩, ⟨LOGOP, op⟩, ⟨SP, s2⟩] ++ ts2 ++ rest
        = ts1 ++ (⟨SP, s1⟩ :: ⟨LOGOP, op⟩ :: ⟨SP, s2⟩ :: (ts2 ++ rest)) := by simp
    rw [e, nsegs, show G + (nsegs t1 + 1) + 1 = (G + 1) + nsegs t1 + 1 by omega,
      ih1 _ (G + 1) (noDotExp_cons (by decide) (by decide) _ _) (by omega)]
    simp only [parseLoop, and_self, if_true]
    rw [ih2 rest G hrest (by omega)]

theorem parse_complete {ts t} (h : D false ts t) : parse ts = some t := by
  have hm : MainF ts t := complete_all h
  have hl := D_length h
  obtain ⟨g, hg⟩ : ∃ g, 2 * ts.length + 2 = (g + 1) + nsegs t + 1 := ⟨2 * ts.length - nsegs t, by omega⟩
  have := hm [] (g + 1) ⟨nofun, nofun⟩ (by omega)
  rw [List.append_nil] at this
  rw [parse, hg, this, parseLoop_exit (by intro k1 t1 k2 t2 r h; cases h)]

theorem parse_iff (ts : List Tok) (t : Tree) : parse ts = some t ↔ D false ts t :=
  ⟨parse_sound ts t, parse_complete⟩

/-- uniqueness of the tree is then free: the parser is a function -/
theorem D_unique {ts t t'} (h : D false ts t) (h' : D false ts t') : t = t' :=
  Option.some.inj ((parse_complete h).symm.trans (parse_complete h'))

end Rules.P
