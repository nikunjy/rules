import RulesModel.Proofs.Refine
import RulesModel.Proofs.OpsLemmas
/-!
# C08 — `in` is membership under the same equality as `eq`

For integer, decimal and string lists of any length and every attribute value:
`p in [v1, …, vn]` is true iff some `p eq vi` is true (`C08_ints`, `C08_floats`, `C08_strs`).
Since the right-hand side only says "some element", order and repetition of the elements do not matter
(`C08_perm`); an absent attribute is a member of nothing (the last `example`).

Each of the three is the same three steps: the `IN` method is true iff its `EQ` is true of some element of the operand
(`int_in_iff_exists_eq` and its two siblings), the operand holds the values of the element texts (`exists_mem_mapOpt`), and a comparison is true
iff its literal has a value of which the method is true (`leaf_true_iff`).
-/
namespace Rules
open Rules.P (Tree Lit Kind INT DOUBLE STRING)

theorem leaf_true_iff (lower : Bytes → Bytes) (item : List (Bytes × Value)) (path : List String) (k : Kind) (lit : Lit)
    (v : Value) (op : CmpOp) (hd : denote item path = .ok v) (hk : cmpOfKind k = some op) :
    (leafOut lower item (.compare path k lit)).res = .verdict true ↔
      ∃ kr, litOperand lit = some kr ∧ okTrue (apply lower kr.1 op v kr.2) := by
  cases hl : litOperand lit with
  | none => simp [leafOut, hd, hl]
  | some kr => rw [leafOut_compare hd hl hk]; unfold Out.ofOpRes; split <;> simp [*]

theorem exists_mem_mapOpt {α β} (f : α → Option β) (P : β → Prop) (xs : List α) (vs : List β)
    (h : mapOpt f xs = some vs) : (∃ v ∈ vs, P v) ↔ ∃ x ∈ xs, ∃ v, f x = some v ∧ P v := by
  fun_induction mapOpt f xs generalizing vs <;> cases h <;> simp [*]

/-- `FloatOperation.IN` tests `right == left`, `EQ` tests `left == right` -/
theorem F64_eq_comm (a b : F64) : F64.eq a b = F64.eq b a := by
  cases a <;> cases b <;> simp only [F64.eq]
  · exact Bool.beq_comm
  · rw [Bool.eq_iff_iff, beq_iff_eq, beq_iff_eq, F64.cmpFin, F64.cmpFin, Int.compare_eq_eq, Int.compare_eq_eq,
      Int.min_comm, eq_comm]

theorem int_in_iff_exists_eq (lower : Bytes → Bytes) (v : Value) (ns : List Int) :
    okTrue (apply lower .int .in_ v (.ints ns)) ↔ ∃ n ∈ ns, okTrue (apply lower .int .eq v (.int n)) := by
  -- whether `EQ` can compare depends on the attribute alone
  refine (intInLoop_eq v ns ▸ inLoop_okTrue_iff _ (fun n m => ?_) ns :)
  cases v <;> simp [isOk, intRelOp, floatRelOp_eq, toIntL, toIntR, toFloatL, toFloatR]

theorem float_in_iff_exists_eq (lower : Bytes → Bytes) (v : Value) (fs : List F64) :
    okTrue (apply lower .float .in_ v (.floats fs)) ↔ ∃ f ∈ fs, okTrue (apply lower .float .eq v (.float f)) := by
  simp only [apply, floatOp, floatRelOp_eq, toFloatR]
  cases toFloatL v <;> simp [floatRel, F64_eq_comm]

theorem string_in_iff_exists_eq (lower : Bytes → Bytes) (v : Value) (ss : List Bytes) :
    okTrue (apply lower .string .in_ v (.strs ss)) ↔ ∃ s ∈ ss, okTrue (apply lower .string .eq v (.str s)) := by
  refine (strInLoop_eq lower v ss ▸ inLoop_okTrue_iff _ (fun a b => ?_) ss :)
  simp only [isOk, strRelOp_eq, getStringR]
  cases getStringL v <;> simp

theorem C08_ints (lower : Bytes → Bytes) (item : List (Bytes × Value)) (path : List String) (xs : List String)
    (vs : List Int) (hm : mapOpt (fun t => parseIntLit false t none) xs = some vs) (v : Value)
    (hd : denote item path = .ok v) :
    (leafOut lower item (.compare path 12 (.list INT xs))).res = .verdict true ↔
      ∃ x ∈ xs, (leafOut lower item (.compare path 13 (.long false x none))).res = .verdict true := by
  have elem (x) : (leafOut lower item (.compare path 13 (.long false x none))).res = .verdict true ↔
      ∃ n, parseIntLit false x none = some n ∧ okTrue (apply lower .int .eq v (.int n)) := by
    rw [leaf_true_iff lower item path 13 _ v .eq hd rfl, litOperand]
    cases parseIntLit false x none <;> simp
  simp only [elem, ← exists_mem_mapOpt _ _ xs vs hm, ← int_in_iff_exists_eq lower v]
  rw [leaf_true_iff lower item path 12 _ v .in_ hd rfl]
  cases xs with
  | nil => cases hm; simp [litOperand, apply, intOp, intInLoop]
  | cons x0 rest => simp [litOperand, hm]

theorem C08_floats (lower : Bytes → Bytes) (item : List (Bytes × Value)) (path : List String) (xs : List String)
    (vs : List F64) (hm : mapOpt parseFloatLit xs = some vs) (v : Value) (hd : denote item path = .ok v) :
    (leafOut lower item (.compare path 12 (.list DOUBLE xs))).res = .verdict true ↔
      ∃ x ∈ xs, (leafOut lower item (.compare path 13 (.double x))).res = .verdict true := by
  have elem (x) : (leafOut lower item (.compare path 13 (.double x))).res = .verdict true ↔
      ∃ f, parseFloatLit x = some f ∧ okTrue (apply lower .float .eq v (.float f)) := by
    rw [leaf_true_iff lower item path 13 _ v .eq hd rfl, litOperand]
    cases parseFloatLit x with
    | some f => simp
    | none =>
      -- out of range: the operand is nil, which `FloatOperation.get` rejects
      simp only [apply, floatOp, floatRelOp_eq, toFloatR]
      cases toFloatL v <;> simp
  simp only [elem, ← exists_mem_mapOpt _ _ xs vs hm, ← float_in_iff_exists_eq lower v]
  rw [leaf_true_iff lower item path 12 _ v .in_ hd rfl]
  cases xs with
  | nil => cases hm; simp [litOperand, INT, DOUBLE, apply, floatOp]; split <;> simp
  | cons x0 rest => simp [litOperand, hm, INT, DOUBLE]

/-- case-insensitive like `eq`, through the same `get` -/
theorem C08_strs (lower : Bytes → Bytes) (item : List (Bytes × Value)) (path : List String) (xs : List String)
    (v : Value) (hd : denote item path = .ok v) :
    (leafOut lower item (.compare path 12 (.list STRING xs))).res = .verdict true ↔
      ∃ x ∈ xs, (leafOut lower item (.compare path 13 (.str x))).res = .verdict true := by
  have elem (x) : (leafOut lower item (.compare path 13 (.str x))).res = .verdict true ↔
      okTrue (apply lower .string .eq v (.str (getStringLit x))) := by
    simp [leaf_true_iff lower item path 13 _ v .eq hd rfl, litOperand]
  rw [leaf_true_iff lower item path 12 _ v .in_ hd rfl]
  cases xs with
  | nil => simp [litOperand, INT, DOUBLE, STRING, apply, stringOp]
  | cons x0 rest =>
    have hl : litOperand (.list STRING (x0 :: rest)) = some (.string, .strs ((x0 :: rest).map getStringLit)) := by
      simp [litOperand, INT, DOUBLE, STRING]
    simp only [hl, Option.some.injEq, exists_eq_left', string_in_iff_exists_eq lower v, elem, List.mem_map]
    exact ⟨fun ⟨_, ⟨x, hx, e⟩, h⟩ => ⟨x, hx, e ▸ h⟩, fun ⟨x, hx, h⟩ => ⟨_, ⟨x, hx, rfl⟩, h⟩⟩

/-- order and repetition of the elements do not matter (string lists; the others are the same one-liner) -/
theorem C08_perm (lower : Bytes → Bytes) (item : List (Bytes × Value)) (path : List String) (xs ys : List String)
    (v : Value) (hd : denote item path = .ok v) (h : ∀ x, x ∈ xs ↔ x ∈ ys) :
    (leafOut lower item (.compare path 12 (.list STRING xs))).res = .verdict true ↔
    (leafOut lower item (.compare path 12 (.list STRING ys))).res = .verdict true := by
  simp only [C08_strs lower item path _ v hd, h]

/-- a float64 attribute equal to an element of an integer list is a member; an absent attribute is a member of nothing -/
example : (leafOut id [(bytesOf "x", .float (F64.ofInt 1))] (.compare ["x"] 12 (.list INT ["1", "2"]))).res = .verdict true := by
  decide +kernel
example : (leafOut id [] (.compare ["x"] 12 (.list INT ["1", "2"]))).res = .verdict false := by decide +kernel

end Rules
