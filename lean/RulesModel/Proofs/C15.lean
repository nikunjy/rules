import RulesModel.Proofs.C20
import RulesModel.Proofs.ParseComplete
import RulesModel.Proofs.Refine
/-!
C15 — spelling, case of operators and permitted whitespace do not change meaning. Token level, for all rules and all
positions at once: the tokens whose text the grammar leaves free (NOT, IN, EQ … EW, `pr`, SP, COMMA, the punctuation) can
be respelled without changing the tree; the texts of `and`/`or`, names and literals are significant. Lexer level, by the
kernel on the table regenerated from JsonQuery.g4: `C15_spellings_lex`, `C15_blank_forms`.
-/
namespace Rules.P

/-- token kinds whose text does not enter the parse tree -/
def isFree (k : Kind) : Bool := (1 ≤ k && k ≤ 8) || (12 ≤ k && k ≤ 21) || k == 29 || k == 30

def norm (t : Tok) : Tok := if isFree t.kind then ⟨t.kind, ""⟩ else t

theorem norm_free (k : Kind) (s : String) (h : isFree k = true) : norm ⟨k, s⟩ = ⟨k, ""⟩ := by simp [norm, h]
theorem norm_kept (k : Kind) (s : String) (h : isFree k = false) : norm ⟨k, s⟩ = ⟨k, s⟩ := by simp [norm, h]

theorem optTok_norm (k : Kind) (o : Option String) (h : isFree k = true) :
    (optTok k o).map norm = optTok k (o.map fun _ => "") := by
  cases o <;> simp [optTok, norm_free k _ h]

theorem DPath_norm {ps p} (h : DPath ps p) : DPath (ps.map norm) p := by
  induction h with
  | one n => simpa (disch := decide) only [List.map_cons, List.map_nil, norm_kept] using DPath.one n
  | dot n d _ ih => simpa (disch := decide) only [List.map_cons, norm_kept, norm_free] using DPath.dot n "" ih

theorem DList_norm {k ts xs} (hk : isFree k = false) (h : DList k ts xs) : DList k (ts.map norm) xs := by
  induction h with
  | last t b => simpa (disch := decide) only [List.map_cons, List.map_nil, norm_kept k t hk, norm_free] using DList.last t ""
  | cons t c _ ih => simpa (disch := decide) only [List.map_cons, norm_kept k t hk, norm_free] using DList.cons t "" ih

theorem DValue_norm {vs v} (h : DValue vs v) : DValue (vs.map norm) v := by
  cases h with
  | long m i e =>
    have := DValue.long (m.map fun _ => "") i e
    cases m <;> cases e <;> simpa (disch := decide) [norm_kept, norm_free] using this
  | list k hk b hl =>
    have hf : isFree k = false := by rcases hk with h | h | h <;> subst h <;> decide
    simpa (disch := decide) only [List.map_cons, norm_free] using DValue.list k hk "" (DList_norm hf hl)
  -- the other values are single tokens whose text is kept
  | _ => simpa (disch := decide) only [List.map_cons, List.map_nil, norm_kept] using by constructor

/-- forgetting the free spellings preserves the derivation **and the tree** -/
theorem D_norm {b ts t} (h : D b ts t) : D b (ts.map norm) t := by
  induction h with
  | paren n s1 s2 s3 l r _ ih =>
    have := D.paren (n.map fun _ => "") (s1.map fun _ => "") (s2.map fun _ => "") (s3.map fun _ => "") "" "" ih
    simpa (disch := decide) [optTok_norm, norm_free] using this
  | present s pr hp =>
    simpa (disch := decide) only [List.map_append, List.map_cons, List.map_nil, norm_free] using D.present "" "" (DPath_norm hp)
  | compare s1 o s2 k hk hp hv =>
    have hf : isFree k = true := by
      simp only [isCmp, Bool.and_eq_true, decide_eq_true_eq] at hk
      simp [isFree, hk.1, hk.2]
    simpa (disch := decide) only [List.map_append, List.map_cons, List.map_nil, norm_free k o hf, norm_free] using
      D.compare "" "" "" k hk (DPath_norm hp) (DValue_norm hv)
  | prim _ ih => exact D.prim ih
  | logical s1 op s2 _ _ ih1 ih2 =>
    simpa (disch := decide) only [List.map_append, List.map_cons, List.map_nil, norm_free, norm_kept] using D.logical "" op "" ih1 ih2

/-- **Spelling does not matter.** Two rules whose tokens differ only in free spellings have the same tree. -/
theorem C15_texts_irrelevant {ts ts' : List Tok} {t t' : Tree} (h : D false ts t) (h' : D false ts' t')
    (hn : ts.map norm = ts'.map norm) : t = t' :=
  D_unique (D_norm h) (hn ▸ D_norm h')

/-- the optional blanks after `not`, after `(` and before `)` do not change the tree -/
theorem C15_optional_blanks (n : Option String) (s1 s2 s3 s1' s2' s3' : Option String) (l r l' r' : String) {ts t}
    (h : D false ts t) :
    ∃ tree, D true (optTok NOT n ++ optTok SP s1 ++ [⟨LP, l⟩] ++ optTok SP s2 ++ ts ++ optTok SP s3 ++ [⟨RP, r⟩]) tree ∧
            D true (optTok NOT n ++ optTok SP s1' ++ [⟨LP, l'⟩] ++ optTok SP s2' ++ ts ++ optTok SP s3' ++ [⟨RP, r'⟩]) tree :=
  ⟨_, D.paren n s1 s2 s3 l r h, D.paren n s1' s2' s3' l' r' h⟩

end Rules.P

namespace Rules
open Rules.P (Tree)

/-- **Redundant parentheses.** `( A )` has the whole outcome of `A` (verdict or failure, diagnostic, Stringer calls), hence
inside any rule, as `evalOut` is compositional. -/
theorem C15_redundant_parens (lower : Bytes → Bytes) (item : List (Bytes × Value)) (A : Tree) :
    evalOut lower item (.paren false A) = evalOut lower item A := by
  rw [evalOut_paren]; rfl

theorem C15_redundant_parens_process (lower : Bytes → Bytes) (item : List (Bytes × Value)) (A : Tree) :
    processTree lower (.paren false A) item = processTree lower A item := by
  rw [processTree_eq, processTree_eq, C15_redundant_parens]

def kindOfName (name : String) : Nat := (Generated.lexerRuleNames.idxOf name) + 1

/-- every spelling of every token of the regenerated grammar lexes to that token, alone and between blanks
(NEWLINE is not a token of any sentence: after a blank it is absorbed into SP, which is the point of `C15_blank_forms`) -/
theorem C15_spellings_lex :
    Generated.spellings.all (fun p => p.2.all (fun sp =>
      genKinds sp == some [kindOfName p.1] &&
      (p.1 == "NEWLINE" || genKinds (" " ++ sp ++ " ") == some [30, kindOfName p.1, 30]))) = true := by
  simp only [genKinds, toList_eq_chars]
  decide +kernel

/-- a blank followed by newlines is one SP token; a comma followed by blanks one COMMA token -/
theorem C15_blank_forms : genKinds " " = some [30] ∧ genKinds " \n" = some [30] ∧ genKinds " \n\n\n" = some [30] ∧
    genKinds "," = some [29] ∧ genKinds ", " = some [29] ∧ genKinds ",    " = some [29] ∧ genKinds "  " = some [30, 30] := by
  decide +kernel

/-- respelled variants of one rule are read as the same tree by the model recogniser -/
example : lexParse Generated.lexerRules "x eq 1 and not (y IN [1,2])".toList =
    lexParse Generated.lexerRules "x == 1 \n\nand NOT( y in [1,  2] )".toList := by
  simp only [toList_eq_chars]
  decide +kernel

end Rules
