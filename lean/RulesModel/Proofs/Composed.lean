import RulesModel.Proofs.SourceToSpec
import RulesModel.Proofs.C13
/-!
The translated visitor running on the translated Operation methods. What `Proofs/VisitorGen` proves holds for any
implementation of `currentOperation.<OP>` that `Agrees` with the model's table; here the translated methods themselves
(`genOps`) are shown to agree (`dispatch_spec`, and no parse tree pairs `IntOperation` with a float64 rule operand). So
the whole hand-written evaluation code, as read from the Go source on this run, computes the Spec outcome.
-/
namespace Rules.VisitorGen
open Rules Rules.Go Rules.Cst Rules.Gen
open Rules.P (Tok Tree Lit)

def genOps (lower : Bytes → Bytes) : OpsImpl := fun k op l r w => GenOps.dispatch lower k op (GoVal.ofV l) (GoVal.ofR r) w

theorem agrees_genOps (lower : Bytes → Bytes) : Agrees lower (genOps lower) := fun s s' v he k hk op w =>
  OpsGen.dispatch_spec lower k op _ _ w fun hki =>
    OpsGen.visitLit_notFloat s s' (absValue v)
      -- a `SubListCtx` holds at least one element, so no parse tree abstracts to the empty integer list
      (fun h => by rcases v with _ | _ | _ | _ | _ | _ | ⟨_, _ | _⟩ | _ | _ <;> simp [absValue, absList, P.INT, P.DOUBLE, P.STRING] at h)
      he (hki ▸ hk)

theorem acceptQuery_gen_spec (lower : Bytes → Bytes) (c : QueryCtx) : ∀ (j : J), Clean (toV j) →
    mapR (fun r => (r.1, toV r.2)) (acceptQuery (genOps lower) c j) = mapR (fun r => (some r.1, r.2)) (visit lower (abs c) (toV j)) :=
  fun j _ => acceptQuery_ops_spec lower _ (agrees_genOps lower) c j

/-- `Evaluator.Process` (transcribed as in `genProcess`) over the translated visitor **and** the translated Operation methods -/
def genProcessT (lower : Bytes → Bytes) (c : QueryCtx) (item : List (Bytes × Value)) : ProcOut :=
  match J_Visit (genOps lower) (NewJsonQueryVisitorImpl item) c with
  | .error p => { verdict := false, err := some (.panic p.p), debug := p.debug, calls := p.calls }
  | .ok (result, visitor) =>
    match result, visitor.err with
    | _, some e => { verdict := false, err := some (clsErr e), debug := visitor.debugErr.map clsDbg, calls := visitor.calls }
    | none, none => { verdict := false, err := none, debug := visitor.debugErr.map clsDbg, calls := visitor.calls }
    | some b, none => { verdict := b, err := none, debug := visitor.debugErr.map clsDbg, calls := visitor.calls }

/-- **all the hand-written evaluation code as translated = the model** -/
theorem genProcessT_eq (lower : Bytes → Bytes) (c : QueryCtx) (item : List (Bytes × Value)) :
    genProcessT lower c item = processTree lower (abs c) item :=
  genProcessWith_eq lower _ (agrees_genOps lower) c item

end Rules.VisitorGen

namespace Rules
open Rules.P (Tree Kind)
open Rules.Cst (QueryCtx abs)

/-- **Every rule text, every object, through the translated code only.** As `source_to_spec`, with every
`currentOperation.<OP>` call going to the translated Operation methods: lexer table regenerated from the `.g4`, parser =
grammar relation, visitor and operations read from the Go source on this run – ending in the Spec outcome the property
theorems are about. What remains hand-transcribed on this path is `NewEvaluator`/`Process` around the visitor (15 lines of
Go) and the meaning of the target constructs (`GoRT`, `GoRTOps`, `Cst`). -/
theorem source_to_spec_translated (rules : List (Kind × Regex)) (lower : Bytes → Bytes) (text : List Char) (item : List (Bytes × Value)) :
    (¬ Sentence rules (trimSpace text) ∧ rulesEvaluate rules lower text item = syntaxOut) ∨
    (∃ ts t c, lex rules (trimSpace text) = some ts ∧ P.D false (ts.map toTok) t ∧ abs c = t ∧
        VisitorGen.genProcessT lower c item = toProc (evalOut lower item t)) := by
  rcases source_to_spec rules lower text item with h | ⟨ts, t, c, hl, hd, hc, _, hg⟩
  · exact .inl h
  · exact .inr ⟨ts, t, c, hl, hd, hc, hg _ (VisitorGen.agrees_genOps lower)⟩

/-- non-vacuity: nested path, list, negation, a connective, Stringer attribute, through the translated visitor and `StringOperation.CO` -/
example : VisitorGen.genProcessT id
    (.logicalExp (.parenExp (some ⟨8, "not"⟩) (.compareExp (.mk ⟨22, "a"⟩ (some (.mk ⟨22, "b"⟩ none))) ⟨12, "in"⟩ (.listOfInts (.mk ⟨26, "1"⟩ (some (.mk ⟨26, "2"⟩ none))))))
      ⟨9, "and"⟩ (.compareExp (.mk ⟨22, "x"⟩ none) ⟨19, "co"⟩ (.string "\"S\"")))
    [(bytesOf "a", .obj [(bytesOf "b", .int 3)]), (bytesOf "x", .stringer 7 (.ret (bytesOf "xSy")))]
    = { verdict := true, err := none, debug := none, calls := [7] } := by decide +kernel
end Rules

namespace Rules.VisitorGen
open Rules Rules.Go Rules.Cst Rules.Gen

/-- **C13 on the translated code.** The visitor as translated from the Go source, calling the translated Operation
methods, never assigns the register that holds the input object: after any (sub-)rule, from any clean state, it still
holds the object it was given (and the translation accepts no statement that writes through a map or slice of the input:
such a function is `unsupported`, DESIGN §4.4). -/
theorem translated_frame (lower : Bytes → Bytes) (c : QueryCtx) (j j' : J) (r : Ret) (hc : Clean (toV j))
    (h : acceptQuery (genOps lower) c j = .ok (r, j')) : j'.item = j.item := by
  revert h
  refine sim_query (acceptQuery_gen_spec lower c j hc) (fun _ h => nomatch h) fun b _ hy h => ?_
  cases h
  exact C13_frame lower (abs c) (toV j) b (toV j') hy
end Rules.VisitorGen
