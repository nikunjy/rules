import RulesModel.Proofs.Refine
/-!
# C10 — Presence, null and boolean literals mean what they say

For every path (any length) and every attribute value, with `v = denote item path` (null = absent or explicit nil):
* `C10_pr`       : `p pr` is true iff `v` is not null (so `false`, `0`, `""`, `{}` and a typed nil pointer are present);
* `C10_null_eq` / `C10_null_ne` : `p eq null` is true iff `v` is null, `p ne null` is its complement;
* `C10_bool`     : `p eq b` is true iff `v` is the Go bool `b`, `p ne b` iff `v` is the Go bool `!b`;
                   for absent or non-bool attributes both are false; never an error.
Stated on `leafOut`; `processTree_eq`/`C02_locality` carry them to `Process` and into compound rules.
-/
namespace Rules
open Rules.P (Tree Lit Kind)

theorem C10_pr (lower : Bytes → Bytes) (item : List (Bytes × Value)) (path : List String) (v : Value)
    (h : denote item path = .ok v) :
    leafOut lower item (.present path) = ⟨.verdict (!v.isNull), none, []⟩ := by
  simp [leafOut, h]

theorem C10_null_eq (lower : Bytes → Bytes) (item : List (Bytes × Value)) (path : List String) (v : Value)
    (h : denote item path = .ok v) :
    leafOut lower item (.compare path 13 .null) = ⟨.verdict v.isNull, none, []⟩ :=
  leafOut_compare (kind := .null) (r := .nil) (op := .eq) h rfl rfl

theorem C10_null_ne (lower : Bytes → Bytes) (item : List (Bytes × Value)) (path : List String) (v : Value)
    (h : denote item path = .ok v) :
    leafOut lower item (.compare path 14 .null) = ⟨.verdict (!v.isNull), none, []⟩ :=
  leafOut_compare (kind := .null) (r := .nil) (op := .ne) h rfl rfl

def isBoolValue (v : Value) (b : Bool) : Bool := match v with | .bool x => x == b | _ => false

def boolText (b : Bool) : String := if b then "true" else "false"

theorem litOperand_boolText (b : Bool) : litOperand (.bool (boolText b)) = some (.bool, .bool b) := by
  cases b <;> rfl

theorem C10_bool (lower : Bytes → Bytes) (item : List (Bytes × Value)) (path : List String) (v : Value) (b : Bool)
    (h : denote item path = .ok v) :
    (leafOut lower item (.compare path 13 (.bool (boolText b)))).res = .verdict (isBoolValue v b) ∧
    (leafOut lower item (.compare path 14 (.bool (boolText b)))).res = .verdict (isBoolValue v (!b)) := by
  rw [leafOut_compare (op := .eq) h (litOperand_boolText b) rfl, leafOut_compare (op := .ne) h (litOperand_boolText b) rfl]
  -- what is left is `boolOp` on `v`: only a Go bool is compared, and `x != b` is `x == !b`
  cases v with
  | bool x => exact ⟨rfl, by cases x <;> cases b <;> rfl⟩
  | _ => exact ⟨rfl, rfl⟩

/-- falsy values are present; a typed nil pointer (an `other` value) is present and not null -/
example : (leafOut id [(bytesOf "a", .bool false), (bytesOf "z", .int 0), (bytesOf "s", .str []), (bytesOf "o", .obj []), (bytesOf "t", .other 4)]
    (.present ["a"])).res = .verdict true := by decide +kernel
example : (leafOut id [(bytesOf "a", .obj [(bytesOf "b", .null)])] (.present ["a", "b", "c"])).res = .verdict false := by
  decide +kernel
example : (leafOut id [(bytesOf "t", .other 4)] (.compare ["t"] 13 .null)).res = .verdict false := by decide +kernel

end Rules
