import RulesModel.Proofs.ParseComplete
/-!
`parser/JsonQuery.g4` writes the rule with a directly left-recursive, ambiguous alternative

    query : NOT? SP? '(' SP? query SP? ')' | query SP LOGICAL_OPERATOR SP query | attrPath SP 'pr' | attrPath SP op SP value

`DA` is that rule read literally as a context-free grammar (both operands of a connective are arbitrary queries).
`D` is ANTLR's reading: a left-associative chain of primaries. `derivesAmb_iff` shows that the two generate the same
token language, so "sentence of the documented grammar" does not depend on how the left recursion is read; `D_unique`
then says which of the literal grammar's several trees is the one ANTLR (and the model) builds.
-/
namespace Rules.P

inductive DA : List Tok → Prop
  | paren (n s1 s2 s3 : Option String) (l r : String) {ts} : DA ts →
      DA (optTok NOT n ++ optTok SP s1 ++ [⟨LP, l⟩] ++ optTok SP s2 ++ ts ++ optTok SP s3 ++ [⟨RP, r⟩])
  | logical (s1 op s2 : String) {ts1 ts2} : DA ts1 → DA ts2 → DA (ts1 ++ [⟨SP, s1⟩, ⟨LOGOP, op⟩, ⟨SP, s2⟩] ++ ts2)
  | present (s pr : String) {ps p} : DPath ps p → DA (ps ++ [⟨SP, s⟩, ⟨PR, pr⟩])
  | compare (s1 o s2 : String) (k : Kind) (hk : isCmp k = true) {ps p vs v} : DPath ps p → DValue vs v →
      DA (ps ++ [⟨SP, s1⟩, ⟨k, o⟩, ⟨SP, s2⟩] ++ vs)

/-- re-association, by induction on the right query; `hb` only lets the induction run over both levels of `D`
(primaries need no case) -/
theorem D_append_query {ts2 : List Tok} {t2 : Tree} {b : Bool} (h2 : D b ts2 t2) (hb : b = false) :
    ∀ {ts1 : List Tok} {t1 : Tree} (s1 op s2 : String), D false ts1 t1 →
      ∃ t, D false (ts1 ++ [⟨SP, s1⟩, ⟨LOGOP, op⟩, ⟨SP, s2⟩] ++ ts2) t := by
  induction h2 with
  | prim h _ => exact fun s1 op s2 h1 => ⟨_, D.logical s1 op s2 h1 h⟩
  | logical a op' c hl hr ihl _ =>
    intro ts1 t1 s1 op s2 h1
    obtain ⟨t, ht⟩ := ihl rfl s1 op s2 h1
    exact ⟨_, by simpa [List.append_assoc] using D.logical a op' c ht hr⟩
  | _ => cases hb

theorem D_of_DA {ts : List Tok} (h : DA ts) : ∃ t, D false ts t := by
  induction h with
  | paren n s1 s2 s3 l r _ ih => obtain ⟨t, ht⟩ := ih; exact ⟨_, D.prim (D.paren n s1 s2 s3 l r ht)⟩
  | logical s1 op s2 _ _ ih1 ih2 =>
    obtain ⟨t1, h1⟩ := ih1
    obtain ⟨t2, h2⟩ := ih2
    exact D_append_query h2 rfl s1 op s2 h1
  | present s pr hp => exact ⟨_, D.prim (D.present s pr hp)⟩
  | compare s1 o s2 k hk hp hv => exact ⟨_, D.prim (D.compare s1 o s2 k hk hp hv)⟩

theorem DA_of_D {b : Bool} {ts : List Tok} {t : Tree} (h : D b ts t) : DA ts := by
  induction h with
  | paren n s1 s2 s3 l r _ ih => exact DA.paren n s1 s2 s3 l r ih
  | present s pr hp => exact DA.present s pr hp
  | compare s1 o s2 k hk hp hv => exact DA.compare s1 o s2 k hk hp hv
  | prim _ ih => exact ih
  | logical s1 op s2 _ _ ih1 ih2 => exact DA.logical s1 op s2 ih1 ih2

/-- **The left-associative reading generates the language of the file's ambiguous rule.** -/
theorem derivesAmb_iff (ts : List Tok) : DA ts ↔ ∃ t, D false ts t :=
  ⟨D_of_DA, fun ⟨_, h⟩ => DA_of_D h⟩

theorem parse_accepts_iff_DA (ts : List Tok) : (∃ t, parse ts = some t) ↔ DA ts :=
  (exists_congr (parse_iff ts)).trans (derivesAmb_iff ts).symm

end Rules.P
