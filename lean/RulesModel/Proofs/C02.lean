import RulesModel.Proofs.Refine
import RulesModel.Proofs.Outcome
/-!
# C02 — An attribute path denotes one value, independent of the rest of the rule

`VisitAttrPath` from any state with an empty stack stores `denote item path` (every path length), and the literal
visitors store the operand the literal denotes, whatever the other registers hold (`C02_path`, `C02_literal`).
`C02_locality` is for every rule (any nesting) and every object; non-object values in the middle of a path are covered
too (they are recovered panics on both sides).
-/
namespace Rules
open Rules.P (Tree Lit Kind)

theorem C02_path (s : VState) (hs : s.stack = []) (path : List String) :
    visitAttrPath s path =
      match denote s.item path with
      | .ok v => .ok { s with leftOp := v, stack := [] }
      | .error p => .error ⟨p, s.calls, s.debugErr⟩ :=
  visitAttrPath_spec s hs path

/-- "absent as soon as a step is missing or null; the remaining steps are not looked at" -/
theorem C02_absent_prefix (rest : List String) (k : String) : denoteV .null (k :: rest) = .ok .null := rfl

theorem C02_step (kvs : List (Bytes × Value)) (k : String) (rest : List String) :
    denoteV (.obj kvs) (k :: rest) = denoteV (Value.get kvs (bytesOf k)) rest := rfl

theorem C02_literal (s : VState) (h : s.rightOp = .nil) (lit : Lit) (k : OpKind) (r : ROp)
    (hl : litOperand lit = some (k, r)) :
    visitLit s lit = .ok { s with curOp := some k, rightOp := r } := by
  simpa [hl] using visitLit_spec s h lit

theorem toProc_err_isSome (o : Out) : (toProc o).err.isSome = (match o.res with | .verdict _ => false | _ => true) := by
  unfold toProc; cases o.res <;> rfl

theorem toProc_seq (a b : Out) : toProc (a.seq b) =
    { toProc b with debug := (toProc b).debug.orElse (fun _ => (toProc a).debug), calls := (toProc a).calls ++ (toProc b).calls } := by
  simp only [toProc_debug, toProc_calls]
  unfold toProc; rw [Out.seq_res]; split <;> rfl

theorem toProc_evalOut_eq_combine (lower : Bytes → Bytes) (item : List (Bytes × Value)) (t : Tree) :
    toProc (evalOut lower item t) = combine (fun l => toProc (evalOut lower item l)) t := by
  induction t with
  | paren neg q ih =>
    rw [combine, ← ih, evalOut_paren, Out.not]
    cases neg <;> cases hr : (evalOut lower item q).res <;> simp [toProc, hr]
  | logical op l r ihl ihr =>
    simp only [combine, ← ihl, ← ihr, ite_shortCircuit, ← toProc_seq, evalOut_logical, apply_ite toProc]
    cases hr : (evalOut lower item l).res with
    | verdict x => simp [toProc_err_isSome, toProc_verdict, verdictOf, hr]
    | _ => simp [toProc_err_isSome, hr]
  | _ => rfl

/-- **C02 (locality).** A comparison placed anywhere inside a compound rule yields exactly what the same
comparison yields as a stand-alone rule: `Process` of the whole rule is the short-circuit combination of
`Process` of its comparisons. -/
theorem C02_locality (lower : Bytes → Bytes) (t : Tree) (item : List (Bytes × Value)) :
    processTree lower t item = combine (fun l => processTree lower l item) t := by
  simpa only [processTree_eq] using toProc_evalOut_eq_combine lower item t

/-- an instance: a path through a missing intermediate followed by another comparison (the D1 witness) -/
example : (evalOut id [(bytesOf "y", .int 1)]
    (.logical "and" (.compare ["y"] 13 (.long false "1" none)) (.compare ["x", "a"] 13 (.long false "1" none)))).res
    = .verdict false := by decide +kernel

end Rules
