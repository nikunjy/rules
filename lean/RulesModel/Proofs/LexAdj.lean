import RulesModel.Proofs.LexSigned
import RulesModel.Proofs.LexAhead
/-!
Sentences without `-` and exponent tokens. `Adj.adj` is the part of `AdjS.adjS` that does not involve them, so the neighbour
analysis (`Adj.D_adjacent`) and the table fact (`adj_separated`) are those of `Proofs/LexSigned.lean`, restricted, and
nothing is asked of the table but `adjTableOK`: per-token conditions suffice (`lexParse_tokens`, `C15_char_level_tokens`).
-/
namespace Rules.Adj
open Rules.P

def chainAdj : List Kind → Bool
  | a :: b :: rest => adj a b && chainAdj (b :: rest)
  | _ => true

structure Seg (ks : List Kind) (f l : Kind) : Prop where
  head : ks.head? = some f
  last : ks.getLast? = some l
  chain : chainAdj ks = true

theorem Seg.single (k : Kind) : Seg [k] k k := ⟨rfl, rfl, rfl⟩

theorem Seg.append {xs ys f1 l1 f2 l2} (h1 : Seg xs f1 l1) (h2 : Seg ys f2 l2) (ha : adj l1 f2 = true) :
    Seg (xs ++ ys) f1 l2 := by
  obtain ⟨ys', rfl⟩ := List.head?_eq_some_iff.1 h2.head
  refine ⟨?_, ?_, AdjS.chain_append (fun _ _ _ => rfl) ha h2.chain h1.last h1.chain⟩
  · rw [List.head?_append]; simp [h1.head]
  · rw [List.getLast?_append]; simp [h2.last]

def kinds (ts : List Tok) : List Kind := ts.map (·.kind)

def NoSign (ts : List Tok) : Prop := ∀ x ∈ ts, x.kind ≠ MINUS ∧ x.kind ≠ EXP

theorem NoSign.append_left {a b : List Tok} (h : NoSign (a ++ b)) : NoSign a := fun x hx => h x (by simp [hx])
theorem NoSign.append_right {a b : List Tok} (h : NoSign (a ++ b)) : NoSign b := fun x hx => h x (by simp [hx])

open Rules.AdjS (adjS)

theorem adj_of_adjS {a b : Kind} (h : adjS a b = true) (ha : a ≠ MINUS ∧ a ≠ EXP) (hb : b ≠ MINUS ∧ b ≠ EXP) :
    adj a b = true := by
  simpa [adjS, ha.1, ha.2, hb.1, hb.2] using h

theorem chainAdj_of_chain : ∀ ks : List Kind, AdjS.chain ks = true → (∀ k ∈ ks, k ≠ MINUS ∧ k ≠ EXP) → chainAdj ks = true
  | [], _, _ => rfl
  | [_], _, _ => rfl
  | a :: b :: r, h, hk => by
    simp only [AdjS.chain, Bool.and_eq_true] at h
    simp only [chainAdj, Bool.and_eq_true]
    exact ⟨adj_of_adjS h.1 (hk a (by simp)) (hk b (by simp)),
      chainAdj_of_chain (b :: r) h.2 fun k hk' => hk k (by simp [hk'])⟩

/-- **Neighbours in a rule**: `AdjS.D_adjacent`, restricted to token sequences without `-`/exponent tokens. -/
theorem D_adjacent {b ts t} (h : D b ts t) (hn : NoSign ts) :
    ∃ f l, Seg (kinds ts) f l ∧ isFirst f = true ∧ isLast l = true := by
  obtain ⟨f, l, hs, hf, hl⟩ := AdjS.D_adjacent h
  have hk : ∀ k ∈ kinds ts, k ≠ MINUS ∧ k ≠ EXP := List.forall_mem_map.2 hn
  refine ⟨f, l, ⟨hs.head, hs.last, chainAdj_of_chain _ hs.chain hk⟩, hf, ?_⟩
  have : l ≠ EXP := (hk l (List.mem_of_getLast? hs.last)).2
  simpa [AdjS.isLastS, this] using hl

end Rules.Adj

namespace Rules
open Rules.Regex

def adjTableOK (rules : List (Kind × Regex)) : Bool :=
  (rules.map (·.1)).all fun a => (rules.map (·.1)).all fun b => !Adj.adj a b || a == P.STRING || sepKinds rules a b

theorem adjTableOK_of_S (rules : List (Kind × Regex)) (h : adjTableOKS rules = true) : adjTableOK rules = true := by
  refine List.all_eq_true.2 fun a ha => List.all_eq_true.2 fun b hb => ?_
  have := List.all_eq_true.1 (List.all_eq_true.1 h a ha) b hb
  cases hab : Adj.adj a b with
  | false => rfl
  | true =>
    have h1 : ¬ (a = P.MINUS ∧ b = P.INT) := by rintro ⟨rfl, rfl⟩; revert hab; decide
    have h2 : ¬ (a = P.INT ∧ b = P.EXP) := by rintro ⟨rfl, rfl⟩; revert hab; decide
    simpa [AdjS.adjS, hab, h1, h2] using this

theorem adj_separated : adjTableOK Generated.lexerRules = true := adjTableOK_of_S _ adj_separated_all

theorem takesAll_of_adj (rules : List (Kind × Regex)) (htab : adjTableOK rules = true) : ∀ ts : List Token,
    (∀ x ∈ ts, Canon rules x) → (∀ x ∈ ts, x.kind = P.STRING → ClosedP rules x.text) →
    Adj.chainAdj (ts.map (·.kind)) = true → TakesAll rules ts
  | [], _, _, _ => trivial
  | [t], hc, _, _ => ⟨(hc t (by simp)).takes (by simp), trivial⟩
  | t :: t' :: rest, hc, hcl, hch => by
    obtain ⟨ht, hrest⟩ := List.forall_mem_cons.1 hc
    obtain ⟨hclt, hclrest⟩ := List.forall_mem_cons.1 hcl
    have ht' := (List.forall_mem_cons.1 hrest).1
    simp only [List.map_cons, Adj.chainAdj, Bool.and_eq_true] at hch
    refine ⟨?_, takesAll_of_adj rules htab (t' :: rest) hrest hclrest (by simpa using hch.2)⟩
    have h2 := List.all_eq_true.1 (List.all_eq_true.1 htab _ ht.kind_mem) _ ht'.kind_mem
    simp only [hch.1, Bool.not_true, Bool.false_or, Bool.or_eq_true, beq_iff_eq] at h2
    rcases h2 with h2 | h2
    · exact ht.takes (hclt h2 _)
    · simpa using takes_of_sepKinds ht ht' h2 (rest.flatMap (·.text))

/-- **Character-level round trip from per-token conditions.** A token sequence the grammar derives, without `-` and
exponent tokens, in which every token is canonical for the table and every string literal is closed, is read back from
its text as the tree it derives. Closedness is a proposition here (`ClosedP`), so that it can be *proved* for a whole
token class. -/
theorem lexParse_tokensP (rules : List (Kind × Regex)) (htab : adjTableOK rules = true) (ts : List Token) (t : P.Tree)
    (hd : P.D false (ts.map toTok) t) (hc : ∀ x ∈ ts, Canon rules x)
    (hcl : ∀ x ∈ ts, x.kind = P.STRING → ClosedP rules x.text)
    (hns : ∀ x ∈ ts, x.kind ≠ P.MINUS ∧ x.kind ≠ P.EXP) :
    lexParse rules (ts.flatMap (·.text)) = some t := by
  obtain ⟨f, l, hs, _, _⟩ := Adj.D_adjacent hd (List.forall_mem_map.2 hns)
  exact lexParse_of_takesAll (takesAll_of_adj rules htab ts hc hcl (map_kind_toTok ts ▸ hs.chain)) hd

theorem lexParse_tokens (rules : List (Kind × Regex)) (htab : adjTableOK rules = true) (ts : List Token) (t : P.Tree)
    (hd : P.D false (ts.map toTok) t) (hc : ∀ x ∈ ts, Canon rules x)
    (hcl : ∀ x ∈ ts, x.kind = P.STRING → extClosed rules x.text = true)
    (hns : ∀ x ∈ ts, x.kind ≠ P.MINUS ∧ x.kind ≠ P.EXP) :
    lexParse rules (ts.flatMap (·.text)) = some t :=
  lexParse_tokensP rules htab ts t hd hc (fun x hx hk rest => bestMatch_closed rules _ rest (hcl x hx hk)) hns

/-- **C15 at character level from per-token conditions.** Two renderings of rules as token sequences that satisfy the
per-token conditions and differ only in the spellings the grammar leaves free are read back from their *texts* as the
same tree. -/
theorem C15_char_level_tokens (rules : List (Kind × Regex)) (htab : adjTableOK rules = true) (ts ts' : List Token) (t t' : P.Tree)
    (hd : P.D false (ts.map toTok) t) (hd' : P.D false (ts'.map toTok) t')
    (hc : ∀ x ∈ ts, Canon rules x) (hc' : ∀ x ∈ ts', Canon rules x)
    (hcl : ∀ x ∈ ts, x.kind = P.STRING → extClosed rules x.text = true)
    (hcl' : ∀ x ∈ ts', x.kind = P.STRING → extClosed rules x.text = true)
    (hns : ∀ x ∈ ts, x.kind ≠ P.MINUS ∧ x.kind ≠ P.EXP) (hns' : ∀ x ∈ ts', x.kind ≠ P.MINUS ∧ x.kind ≠ P.EXP)
    (hn : (ts.map toTok).map P.norm = (ts'.map toTok).map P.norm) :
    lexParse rules (ts.flatMap (·.text)) = lexParse rules (ts'.flatMap (·.text)) ∧
    lexParse rules (ts.flatMap (·.text)) = some t :=
  C15_of_round_trip hd hd' hn (lexParse_tokens rules htab ts t hd hc hcl hns) (lexParse_tokens rules htab ts' t' hd' hc' hcl' hns')

def tokOK (rules : List (Kind × Regex)) (x : Token) : Bool :=
  canonB rules x && (x.kind != P.STRING || extClosed rules x.text) && x.kind != P.MINUS && x.kind != P.EXP

theorem tokOK_spec (rules : List (Kind × Regex)) (x : Token) (h : tokOK rules x = true) :
    Canon rules x ∧ (x.kind = P.STRING → extClosed rules x.text = true) ∧ x.kind ≠ P.MINUS ∧ x.kind ≠ P.EXP := by
  simp only [tokOK, Bool.and_eq_true, Bool.or_eq_true, bne_iff_ne] at h
  obtain ⟨⟨⟨h1, h2⟩, h3⟩, h4⟩ := h
  refine ⟨canon_of_canonB rules x h1, ?_, h3, h4⟩
  intro hk
  rcases h2 with h2 | h2
  · exact absurd hk h2
  · exact h2

/-- non-vacuity on the regenerated table: only per-token conditions are evaluated; the grammar supplies the rest -/
example :
    let ts := [tk 8 "not", tk 30 " ", tk 1 "(", tk 22 "name", tk 30 " ", tk 19 "co", tk 30 " ", tk 24 "\"Ann \\\"B\\\"\"", tk 30 " ", tk 9 "and", tk 30 " \n",
               tk 22 "a", tk 4 ".", tk 22 "b", tk 30 " ", tk 12 "in", tk 30 " ", tk 6 "[", tk 25 "1.5", tk 29 ", ", tk 25 "-2.0e3", tk 7 "]", tk 2 ")",
               tk 30 " ", tk 9 "or", tk 30 " ", tk 22 "v", tk 30 " ", tk 17 ">=", tk 30 " ", tk 23 "1.2.3"]
    ts.all (tokOK Generated.lexerRules) = true ∧ (lexParse Generated.lexerRules (ts.flatMap (·.text))).isSome = true := by
  decide +kernel

end Rules
