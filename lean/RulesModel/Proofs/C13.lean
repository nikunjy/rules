import RulesModel.Proofs.Refine
import RulesModel.Proofs.VisitFrame
/-!
# C13 — Evaluation never modifies the input object   (partial: see below)

Model values are immutable, so an in-place write into a Go map cannot be expressed; what the model *can* exclude is
that the visitor replaces or normalises what it was given (`C13_frame`, `C13_reads_subvalues`).
Aliasing writes are covered only by the deep-snapshot correspondence of the harness (level `other`).
-/
namespace Rules
open Rules.P (Tree Lit Kind)

theorem visitCompare_item (lower : Bytes → Bytes) (s : VState) (path : List String) (k : Kind) (lit : Lit) (b : Bool)
    (s' : VState) : visitCompare lower s path k lit = .ok (b, s') → s'.item = s.item := by
  fun_cases visitCompare lower s path k lit
  all_goals intro h; cases h
  -- every way out returns the state the literal left behind, with registers other than `item` updated
  all_goals exact (congrArg VState.item (visitLit_frame _ _ _ ‹_›) :).trans (congrArg VState.item (visitAttrPath_frame _ _ _ ‹_›) :)

/-- **Frame.** Visiting never changes which object the visitor looks at. -/
theorem C13_frame (lower : Bytes → Bytes) (t : Tree) : ∀ (s : VState) (b : Bool) (s' : VState),
    visit lower t s = .ok (b, s') → s'.item = s.item := by
  intro s
  fun_induction visit lower t s <;> intro b s' h
  case case9 =>
    simp only [visitPresent] at h
    split at h <;> cases h
    exact (congrArg VState.item (visitAttrPath_frame _ _ _ ‹_›) :)
  case case10 => exact visitCompare_item _ _ _ _ _ _ _ h
  -- the right operand was visited, from the state the left one left behind
  case case6 ihl ihr | case8 ihl ihr => exact (ihr b s' h).trans (ihl _ _ ‹_›)
  -- the left operand (or the operand of `not`) decided
  case case2 ih | case4 ih | case5 ih | case7 ih => cases h; exact ih _ _ ‹_›
  all_goals cases h

theorem Value.get_null_or_mem (l : List (Bytes × Value)) (key : Bytes) :
    Value.get l key = .null ∨ ∃ k, (k, Value.get l key) ∈ l := by
  fun_induction Value.get l key with
  | case1 => exact .inl rfl
  | case2 => exact .inr ⟨_, List.mem_cons_self⟩
  | case3 _ _ _ _ _ ih => exact ih.imp id fun ⟨k, h⟩ => ⟨k, List.mem_cons_of_mem _ h⟩

theorem denoteV_sub (v : Value) (path : List String) (w : Value) (h : denoteV v path = .ok w) (hn : w.isNull = false) :
    SubValue w v := by
  fun_induction denoteV v path
  case case1 => cases h; exact .refl _
  case case2 => cases h; cases hn
  case case3 kvs k ks ih =>
    rcases Value.get_null_or_mem kvs (bytesOf k) with hnull | ⟨k', hm⟩
    · cases hnull ▸ ih h; cases hn
    · exact .step hm (ih h)
  case case4 => cases h

/-- what a comparison reads is (a part of) the input object -/
theorem C13_reads_subvalues (item : List (Bytes × Value)) (path : List String) (w : Value)
    (h : denote item path = .ok w) (hn : w.isNull = false) : SubValue w (.obj item) := by
  cases path with
  | nil => simp [denote] at h; subst h; simp [Value.isNull] at hn
  | cons k ks => exact denoteV_sub _ _ _ (by simpa [denote] using h) hn

end Rules
