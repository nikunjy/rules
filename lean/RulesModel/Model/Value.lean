import RulesModel.Model.F64
/-!
# Values: the quotient of Go values the engine can observe (DESIGN §1 F1, DESIGN-round0 §3.2)

The engine looks at an attribute value only through `== nil`, type assertions / switches to
`bool, int, int32, int64, float64, string, fmt.Stringer, map[string]interface{}` and `String()`.
Every Go value is therefore, for every property, one of the constructors below.
-/
namespace Rules

/-- Go strings are byte sequences. -/
abbrev Bytes := List UInt8

/-- what `String()` of a `fmt.Stringer` does when the engine calls it -/
inductive StrBeh where
  | ret (s : Bytes)
  | panics
  deriving Repr, DecidableEq

inductive Value where
  | null
  | bool (b : Bool)
  | int (n : Int)
  | int32 (n : Int)
  | int64 (n : Int)
  | float (f : F64)
  | str (s : Bytes)
  | obj (kvs : List (Bytes × Value))
  | stringer (id : Nat) (beh : StrBeh)
  | other (tag : Nat)          -- slice, struct, chan, func, typed nil, named map, uint8, float32 …
  deriving Repr

/-- Go `m[key]` on `map[string]interface{}`: nil when missing (also on a nil map = `obj []`). -/
def Value.get : List (Bytes × Value) → Bytes → Value
  | [], _ => .null
  | (k, v) :: rest, key => if k = key then v else Value.get rest key

def Value.isNull : Value → Bool
  | .null => true
  | _ => false

/-- bytes of a (rule-text) string: Go `string(runes)` is the UTF-8 encoding -/
def bytesOf (s : String) : Bytes := s.toUTF8.data.toList

/-- sub-value relation (used by the frame theorem C13) -/
inductive SubValue : Value → Value → Prop
  | refl (v) : SubValue v v
  | step {v k w kvs} : (k, w) ∈ kvs → SubValue v w → SubValue v (.obj kvs)

end Rules
