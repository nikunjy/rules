import RulesModel.Model.Ops
import RulesModel.Model.Grammar
/-!
# The hand-written visitor (`jsonquery_visitor_impl.go`) and `Evaluator.Process` (`evaluate.go`) — Impl layer

Each definition mirrors one Go method statement by statement: the same registers (`stack`, `leftOp`,
`rightOp`, `currentOperation`, `err`, `debugErr`), the same early returns, the deferred `rightOp = nil`,
failed type assertions and panicking `String()` methods as `Except.error`, and the `recover()` of
`Process`. `calls` records the Stringers asked for their text (the observation channel of C06).
-/
namespace Rules
open Rules.P (Tree Lit Kind INT DOUBLE STRING)

inductive Panic where
  | notAMap          -- `item.(map[string]interface{})` on a non-nil non-map value
  | typeAssert       -- `j.rightOp.([]T)` on a register of another type
  | stringer         -- a user `String()` method panicked
  | nilOp            -- method call on a nil `currentOperation`
  | indexRange       -- index / slice bounds out of range (only the translated code can say it; `Proofs/VisitorGen` shows it is never reached)
  | nilDeref         -- method call on a nil context (idem)
  deriving Repr, DecidableEq

/-- evaluation error (`visitor.err`, returned by Process) -/
inductive EvalErr where
  | invalidOperation         -- ErrInvalidOperation
  | badLiteral               -- strconv error of an integer literal / list element
  | unknownOp                -- "Unknown operation"
  | syntax                   -- the rule text is not a sentence (Evaluator.syntaxErr)
  | panic (p : Panic)        -- recovered panic
  deriving Repr, DecidableEq

/-- class of the diagnostic stored by `setDebugErr` -/
inductive Dbg where
  | invalidOperation | missing | invalidOperand | other
  deriving Repr, DecidableEq

structure VState where
  item : List (Bytes × Value)        -- j.item (a nil map is `[]`)
  stack : List Value                 -- j.stack.items, top first
  leftOp : Value
  rightOp : ROp
  curOp : Option OpKind
  err : Option EvalErr
  debugErr : Option Dbg
  calls : List Nat
  deriving Repr

def VState.init (item : List (Bytes × Value)) : VState :=
  { item, stack := [], leftOp := .null, rightOp := .nil, curOp := none, err := none, debugErr := none, calls := [] }

/-- a panic unwinds to `Process`; what survives is what it was, which Stringers had been called and the diagnostic recorded so far -/
structure PanicInfo where
  p : Panic
  calls : List Nat
  debug : Option Dbg       -- `visitor.debugErr` when the panic was raised (kept by `Process`, repair D10)
  deriving Repr

abbrev VM := Except PanicInfo

/-- `VisitAttrPath` (with repair D1); `path` = the ATTRNAME texts, outermost first -/
def visitAttrPath (s : VState) : List String → VM VState
  | [] => .ok { s with leftOp := .null, stack := [] }     -- no such tree comes out of the parser (a path has >= 1 name)
  | [k] =>
    let item : Value := match s.stack with
      | top :: _ => top                 -- pop
      | [] => .obj s.item
    match item with
    | .null => .ok { s with leftOp := .null, stack := [] }
    | .obj kvs => .ok { s with leftOp := Value.get kvs (bytesOf k), stack := [] }
    | _ => .error ⟨.notAMap, s.calls, s.debugErr⟩
  | k :: k' :: ks =>
    let item : Value := match s.stack with
      | top :: _ => top                 -- peek
      | [] => .obj s.item
    match item with
    | .null => .ok { s with leftOp := .null, stack := [] }
    | .obj kvs => visitAttrPath { s with stack := Value.get kvs (bytesOf k) :: s.stack } (k' :: ks)
    | _ => .error ⟨.notAMap, s.calls, s.debugErr⟩

/-- `getString` of the visitor: strip the quotes of a STRING token text -/
def getStringLit (t : String) : Bytes :=
  let b := bytesOf t
  if b.length > 2 then (b.drop 1).dropLast else []

/-- `VisitSubListOfInts` -/
def visitSubInts (s : VState) : List String → VM VState
  | [] => .ok s
  | t :: rest =>
    let s1 := match s.rightOp with
      | .nil => { s with rightOp := .ints [] }
      | _ => s
    match s1.rightOp with
    | .ints l =>
      match parseIntLit false t none with
      | none => .ok { s1 with err := some .badLiteral }
      | some v =>
        let s2 := { s1 with rightOp := .ints (l ++ [v]) }
        visitSubInts s2 rest      -- (returns at once when no element is left)
    | _ => .error ⟨.typeAssert, s.calls, s.debugErr⟩

/-- `VisitSubListOfDoubles` -/
def visitSubFloats (s : VState) : List String → VM VState
  | [] => .ok s
  | t :: rest =>
    let s1 := match s.rightOp with
      | .nil => { s with rightOp := .floats [] }
      | _ => s
    match s1.rightOp with
    | .floats l =>
      match parseFloatLit t with
      | none => .ok { s1 with err := some .badLiteral }
      | some v =>
        let s2 := { s1 with rightOp := .floats (l ++ [v]) }
        visitSubFloats s2 rest      -- (returns at once when no element is left)
    | _ => .error ⟨.typeAssert, s.calls, s.debugErr⟩

/-- `VisitSubListOfStrings` -/
def visitSubStrs (s : VState) : List String → VM VState
  | [] => .ok s
  | t :: rest =>
    let s1 := match s.rightOp with
      | .nil => { s with rightOp := .strs [] }
      | _ => s
    match s1.rightOp with
    | .strs l =>
      let s2 := { s1 with rightOp := .strs (l ++ [getStringLit t]) }
      visitSubStrs s2 rest
    | _ => .error ⟨.typeAssert, s.calls, s.debugErr⟩

/-- `ctx.Value().Accept(j)`: the literal visitors -/
def visitLit (s : VState) : Lit → VM VState
  | .bool t =>
    let s1 := { s with curOp := some .bool }
    if t = "true" then .ok { s1 with rightOp := .bool true }
    else if t = "false" then .ok { s1 with rightOp := .bool false }
    else .ok { s1 with rightOp := .nil, err := some .badLiteral }
  | .null => .ok { s with curOp := some .null, rightOp := .nil }
  | .version t => .ok { s with curOp := some .version, rightOp := .str (bytesOf t) }
  | .str t => .ok { s with curOp := some .string, rightOp := .str (getStringLit t) }
  | .double t =>
    let s1 := { s with curOp := some .float }
    match parseFloatLit t with
    | none => .ok { s1 with rightOp := .nil }            -- "TODO set err somewhere"
    | some v => .ok { s1 with rightOp := .float v }
  | .long neg i e =>
    let s1 := { s with curOp := some .int }
    match parseIntLit neg i e with
    | none => .ok { s1 with rightOp := .nil, err := some .badLiteral }
    | some v => .ok { s1 with rightOp := .int v }
  | .list k xs =>
    if k = INT then visitSubInts { s with curOp := some .int } xs
    else if k = DOUBLE then visitSubFloats { s with curOp := some .float } xs
    else visitSubStrs { s with curOp := some .string } xs

/-- the `switch ctx.op.GetTokenType()` of `VisitCompareExp` -/
def cmpOfKind (k : Kind) : Option CmpOp :=
  if k = 13 then some .eq else if k = 14 then some .ne else if k = 15 then some .gt
  else if k = 16 then some .lt else if k = 18 then some .le else if k = 17 then some .ge
  else if k = 19 then some .co else if k = 20 then some .sw else if k = 21 then some .ew
  else if k = 12 then some .in_ else none

/-- `VisitCompareExp` -/
def visitCompare (lower : Bytes → Bytes) (s : VState) (path : List String) (k : Kind) (lit : Lit) : VM (Bool × VState) :=
  match visitAttrPath s path with
  | .error p => .error p
  | .ok s1 =>
    match visitLit s1 lit with
    | .error p => .error p
    | .ok s2 =>
      if s2.err.isSome then .ok (false, s2) else
      match cmpOfKind k with
      | none => .ok (false, { s2 with err := some .unknownOp })
      | some op =>
        match s2.curOp with
        | none => .error ⟨.nilOp, s2.calls, s2.debugErr⟩
        | some ok =>
          match apply lower ok op s2.leftOp s2.rightOp with
          | .panic c => .error ⟨.stringer, s2.calls ++ c, s2.debugErr⟩
          | .ok b c => .ok (b, { s2 with rightOp := .nil, calls := s2.calls ++ c })
          | .err e c =>
            let s3 := { s2 with rightOp := .nil, calls := s2.calls ++ c }
            match e with
            | .invalidOperation => .ok (false, { s3 with err := some .invalidOperation, debugErr := some .invalidOperation })
            | .missing => .ok (false, { s3 with debugErr := some .missing })
            | .invalidOperand => .ok (false, { s3 with debugErr := some .invalidOperand })
            | .other => .ok (false, { s3 with debugErr := some .other })

/-- `VisitPresentExp` -/
def visitPresent (s : VState) (path : List String) : VM (Bool × VState) :=
  match visitAttrPath s path with
  | .error p => .error p
  | .ok s1 => .ok (!s1.leftOp.isNull, s1)

/-- `Accept` on a query node: `VisitParenExp`, `VisitLogicalExp` (with repair D2), `VisitPresentExp`, `VisitCompareExp` -/
def visit (lower : Bytes → Bytes) : Tree → VState → VM (Bool × VState)
  | .paren neg q, s =>
    match visit lower q s with
    | .error p => .error p
    | .ok (r, s') => .ok (if neg then !r else r, s')
  | .logical op l r, s =>
    match visit lower l s with
    | .error p => .error p
    | .ok (a, s1) =>
      if s1.err.isSome then .ok (false, s1)
      else if op = "or" then (if a then .ok (a, s1) else visit lower r s1)
      else (if !a then .ok (a, s1) else visit lower r s1)
  | .present path, s => visitPresent s path
  | .compare path k lit, s => visitCompare lower s path k lit

/-- what `Process` returns and leaves behind -/
structure ProcOut where
  verdict : Bool
  err : Option EvalErr
  debug : Option Dbg          -- `Evaluator.lastDebugErr` after the call
  calls : List Nat
  deriving Repr, DecidableEq

/-- `Evaluator.Process` on a parsed rule: fresh visitor, `Visit`, `recover()` -/
def processTree (lower : Bytes → Bytes) (t : Tree) (item : List (Bytes × Value)) : ProcOut :=
  match visit lower t (VState.init item) with
  | .error p => { verdict := false, err := some (.panic p.p), debug := p.debug, calls := p.calls }
  | .ok (b, s) =>
    match s.err with
    | some e => { verdict := false, err := some e, debug := s.debugErr, calls := s.calls }
    | none => { verdict := b, err := none, debug := s.debugErr, calls := s.calls }

end Rules
