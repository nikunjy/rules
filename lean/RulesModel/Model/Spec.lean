import RulesModel.Model.Api
/-!
# Spec layer (DESIGN-round0 §3.9): the short, compositional semantics the properties talk about

* `denote`      – what a dotted path denotes in an object
* `litOperand`  – what a literal denotes: the typed operation and the rule operand (or a bad literal)
* `leafOut`     – outcome of one comparison, from `denote`, `litOperand` and the operation table `apply`
* `evalOut`     – outcome of a rule: left-to-right short-circuit combination of `leafOut`
* `toProc`      – the observable result (`ProcOut`) of an outcome

`Proofs/Refine.lean` proves that the visitor state machine of `Model/Visitor.lean` computes exactly this.
-/
namespace Rules
open Rules.P (Tree Lit Kind INT DOUBLE STRING)

/-- A dotted path denotes the value reached by successive key lookups; `absent` (= null) as soon as a step is
missing or null – the remaining steps are not looked at; a non-object in the middle is a (recovered) panic. -/
def denoteV : Value → List String → Except Panic Value
  | v, [] => .ok v
  | .null, _ :: _ => .ok .null
  | .obj kvs, k :: ks => denoteV (Value.get kvs (bytesOf k)) ks
  | _, _ :: _ => .error .notAMap

def denote (item : List (Bytes × Value)) (path : List String) : Except Panic Value :=
  match path with
  | [] => .ok .null
  | _ => denoteV (.obj item) path

def mapOpt {α β} (f : α → Option β) : List α → Option (List β)
  | [] => some []
  | a :: as => match f a with
    | none => none
    | some b => match mapOpt f as with
      | none => none
      | some bs => some (b :: bs)

/-- what a literal denotes: which `Operation` compares it and the operand it contributes;
`none` = the literal cannot be converted (evaluation error) -/
def litOperand : Lit → Option (OpKind × ROp)
  | .bool t => if t = "true" then some (.bool, .bool true) else if t = "false" then some (.bool, .bool false) else none
  | .null => some (.null, .nil)
  | .version t => some (.version, .str (bytesOf t))
  | .str t => some (.string, .str (getStringLit t))
  | .double t => match parseFloatLit t with
    | none => some (.float, .nil)                       -- out of range: operand nil, no evaluation error
    | some v => some (.float, .float v)
  | .long neg i e => match parseIntLit neg i e with
    | none => none
    | some v => some (.int, .int v)
  | .list k xs =>
    if k = INT then
      match xs with
      | [] => some (.int, .nil)
      | _ => (mapOpt (fun t => parseIntLit false t none) xs).map (fun vs => (.int, .ints vs))
    else if k = DOUBLE then
      match xs with
      | [] => some (.float, .nil)
      | _ => (mapOpt parseFloatLit xs).map (fun vs => (.float, .floats vs))
    else
      match xs with
      | [] => some (.string, .nil)
      | _ => some (.string, .strs (xs.map getStringLit))

inductive Res where
  | verdict (b : Bool)
  | fail (e : EvalErr)
  | panic (p : Panic)
  deriving Repr, DecidableEq

/-- outcome of (part of) a rule on an object -/
structure Out where
  res : Res
  dbg : Option Dbg        -- diagnostic of the last reached comparison that has one
  calls : List Nat        -- Stringers asked for their text, in order
  deriving Repr, DecidableEq

def dbgOfErr : OpErr → Dbg
  | .invalidOperation => .invalidOperation
  | .missing => .missing
  | .invalidOperand => .invalidOperand
  | .other => .other

/-- outcome of a single comparison / presence test -/
def leafOut (lower : Bytes → Bytes) (item : List (Bytes × Value)) : Tree → Out
  | .present path =>
    match denote item path with
    | .error p => ⟨.panic p, none, []⟩
    | .ok v => ⟨.verdict (!v.isNull), none, []⟩
  | .compare path k lit =>
    match denote item path with
    | .error p => ⟨.panic p, none, []⟩
    | .ok v =>
      match litOperand lit with
      | none => ⟨.fail .badLiteral, none, []⟩
      | some (kind, r) =>
        match cmpOfKind k with
        | none => ⟨.fail .unknownOp, none, []⟩
        | some op =>
          match apply lower kind op v r with
          | .panic c => ⟨.panic .stringer, none, c⟩
          | .ok b c => ⟨.verdict b, none, c⟩
          | .err .invalidOperation c => ⟨.fail .invalidOperation, some .invalidOperation, c⟩
          | .err e c => ⟨.verdict false, some (dbgOfErr e), c⟩
  | _ => ⟨.fail .syntax, none, []⟩          -- not a leaf (never used)

/-- `a` then `b` (b was reached after a) -/
def Out.seq (a b : Out) : Out :=
  { res := b.res, dbg := b.dbg.orElse (fun _ => a.dbg), calls := a.calls ++ b.calls }

/-- outcome of a rule: `and`/`or` evaluate left to right with short circuit, `not` negates,
a failure or panic is final -/
def evalOut (lower : Bytes → Bytes) (item : List (Bytes × Value)) : Tree → Out
  | .paren neg q =>
    let o := evalOut lower item q
    match o.res with
    | .verdict b => { o with res := .verdict (if neg then !b else b) }
    | _ => o
  | .logical op l r =>
    let a := evalOut lower item l
    match a.res with
    | .verdict x =>
      if op = "or" then (if x then a else a.seq (evalOut lower item r))
      else (if !x then a else a.seq (evalOut lower item r))
    | _ => a
  | t => leafOut lower item t

/-- what the caller of `Process` observes -/
def toProc (o : Out) : ProcOut :=
  match o.res with
  | .verdict b => { verdict := b, err := none, debug := o.dbg, calls := o.calls }
  | .fail e => { verdict := false, err := some e, debug := o.dbg, calls := o.calls }
  | .panic p => { verdict := false, err := some (.panic p), debug := o.dbg, calls := o.calls }

/-- leaves of a rule, left to right -/
def leaves : Tree → List Tree
  | .paren _ q => leaves q
  | .logical _ l r => leaves l ++ leaves r
  | t => [t]

/-- the comparisons reached under left-to-right short-circuit evaluation, in order -/
def reached (lower : Bytes → Bytes) (item : List (Bytes × Value)) : Tree → List Tree
  | .paren _ q => reached lower item q
  | .logical op l r =>
    match (evalOut lower item l).res with
    | .verdict x =>
      if op = "or" then (if x then reached lower item l else reached lower item l ++ reached lower item r)
      else (if !x then reached lower item l else reached lower item l ++ reached lower item r)
    | _ => reached lower item l
  | t => [t]

/-- plain truth-functional reading of a rule given the verdict of each comparison -/
def boolOf (v : Tree → Bool) : Tree → Bool
  | .paren neg q => if neg then !(boolOf v q) else boolOf v q
  | .logical op l r => if op = "or" then (boolOf v l || boolOf v r) else (boolOf v l && boolOf v r)
  | t => v t

end Rules
