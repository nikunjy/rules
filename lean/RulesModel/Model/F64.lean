/-! Model: exact model of IEEE binary64 values, decimal → binary64 rounding (strconv.ParseFloat), comparisons. -/
namespace Rules

inductive F64 where
  | nan
  | inf (neg : Bool)
  | fin (neg : Bool) (m : Nat) (e : Int)    -- (-1)^neg * m * 2^e
  deriving Repr, DecidableEq

namespace F64

/-- decode from IEEE bits -/
def ofBits (b : UInt64) : F64 :=
  let n := b.toNat
  let sign := n / 2^63 == 1
  let ex := (n / 2^52) % 2048
  let frac := n % 2^52
  if ex == 2047 then (if frac == 0 then .inf sign else .nan)
  else if ex == 0 then .fin sign frac (-1074)
  else .fin sign (frac + 2^52) (Int.ofNat ex - 1075)

/-- encode (assumes canonical m < 2^53 etc.; used only to print model results) -/
def toBits : F64 → Nat
  | .nan => 0x7FF8000000000001
  | .inf neg => (if neg then 2^63 else 0) + 2047 * 2^52
  | .fin neg m e =>
    let s := if neg then 2^63 else 0
    if m == 0 then s else
    -- normalise m to [2^52, 2^53) when possible
    let l := Nat.log2 m
    let (m', e') : Nat × Int :=
      if l ≥ 52 then (m / 2^(l-52), e + (l-52 : Nat)) else
        let sh := min (52 - l) (e + 1074).toNat
        (m * 2^sh, e - sh)
    if m' ≥ 2^52 then s + ((e' + 1075).toNat) * 2^52 + (m' - 2^52) else s + m'

/-- the rounded significand/exponent as a value; `none` = beyond the largest finite binary64 (overflow) -/
def mkFin (neg : Bool) (m : Nat) (e : Int) : Option F64 :=
  if e + 52 > 1023 ∧ m ≥ 2^52 then none else some (.fin neg m e)

/-- round the non-negative rational n/d (d > 0) to nearest binary64, ties to even. none = overflow. -/
def roundRat (neg : Bool) (n d : Nat) : Option F64 :=
  if n == 0 then some (.fin neg 0 0) else
  -- find k with 2^52 ≤ (n/d)/2^k < 2^53, clamp k ≥ -1074
  let ln : Int := Nat.log2 n
  let ld : Int := Nat.log2 d
  let k0 : Int := ln - ld - 52         -- estimate; exact exponent is k0 or k0-1
  -- q(k) = floor(n / (d * 2^k)) ; choose k so that 2^52 ≤ q < 2^53
  let scaled (k : Int) : Nat × Nat :=    -- numerator, denominator of (n/d)/2^k
    if k ≥ 0 then (n, d * 2^k.toNat) else (n * 2^(-k).toNat, d)
  let k1 := let (a, b) := scaled k0; if a / b < 2^52 then k0 - 1 else k0
  let k := if k1 < -1074 then -1074 else k1
  let (a, b) := scaled k
  let q := a / b
  let r := a % b
  -- round half even
  let q' := if 2 * r > b then q + 1 else if 2 * r == b then (if q % 2 == 1 then q + 1 else q) else q
  let (m, e) : Nat × Int := if q' == 2^53 then (2^52, k + 1) else (q', k)
  mkFin neg m e

/-- decimal literal: digits * 10^exp10 -/
def ofDecimal (neg : Bool) (digits : Nat) (exp10 : Int) : Option F64 :=
  if digits == 0 then some (.fin neg 0 0) else
  if exp10 > 400 then none else
  if exp10 < -800 - (Nat.log2 digits : Int) then some (.fin neg 0 0) else
  if exp10 ≥ 0 then roundRat neg (digits * 10^exp10.toNat) 1 else roundRat neg digits (10^(-exp10).toNat)

/-- exact comparison of finite values by cross-scaling -/
def cmpFin (n1 : Bool) (m1 : Nat) (e1 : Int) (n2 : Bool) (m2 : Nat) (e2 : Int) : Ordering :=
  let v1 : Int := if n1 then -(m1 : Int) else m1
  let v2 : Int := if n2 then -(m2 : Int) else m2
  let e := min e1 e2
  compare (v1 * 2^(e1 - e).toNat) (v2 * 2^(e2 - e).toNat)

def lt : F64 → F64 → Bool
  | .nan, _ | _, .nan => false
  | .inf n1, .inf n2 => n1 && !n2
  | .inf n1, .fin .. => n1
  | .fin .., .inf n2 => !n2
  | .fin n1 m1 e1, .fin n2 m2 e2 => cmpFin n1 m1 e1 n2 m2 e2 == .lt

def eq : F64 → F64 → Bool
  | .nan, _ | _, .nan => false
  | .inf n1, .inf n2 => n1 == n2
  | .inf _, .fin .. | .fin .., .inf _ => false
  | .fin n1 m1 e1, .fin n2 m2 e2 => cmpFin n1 m1 e1 n2 m2 e2 == .eq


/-- Go `float64(n)` for an `int` n: exact for |n| ≤ 2^53 (by definition), nearest-even otherwise. -/
def ofInt (n : Int) : F64 :=
  if n.natAbs ≤ 2^53 then .fin (decide (n < 0)) n.natAbs 0
  else match roundRat (decide (n < 0)) n.natAbs 1 with
    | some f => f
    | none => .inf (decide (n < 0))

/-- IEEE comparisons as Go's `<, >, <=, >=, ==, !=` on float64 -/
def gt (a b : F64) : Bool := lt b a
def le (a b : F64) : Bool := lt a b || eq a b
def ge (a b : F64) : Bool := lt b a || eq a b
def ne (a b : F64) : Bool := !eq a b

def isNaN : F64 → Bool
  | .nan => true
  | _ => false

end F64

/-! ### literal texts → numbers (strconv.ParseInt / ParseFloat on the token shapes of the grammar) -/

def digitsToNat (cs : List Char) : Nat := cs.foldl (fun a c => a * 10 + (c.toNat - 48)) 0

def allDigits (cs : List Char) : Bool := !cs.isEmpty && cs.all Char.isDigit

/-- `strconv.ParseInt(text, 10, 64)` where text = `-`? INT EXP? : an exponent part makes it fail,
and so does a value outside int64. -/
def parseIntLit (neg : Bool) (i : String) (e : Option String) : Option Int :=
  if e.isSome then none
  else if !allDigits i.toList then none
  else
    let v : Int := digitsToNat i.toList
    let n : Int := if neg then -v else v
    if -(2^63 : Int) ≤ n ∧ n < (2^63 : Int) then some n else none

/-- split a DOUBLE token text: `-`? int `.` frac ([eE][+-]? int)? -/
def splitDouble (t : List Char) : Option (Bool × List Char × List Char × Int) :=
  let (neg, t1) := match t with
    | '-' :: r => (true, r)
    | r => (false, r)
  let ip := t1.takeWhile Char.isDigit
  match t1.dropWhile Char.isDigit with
  | '.' :: r =>
    let fp := r.takeWhile Char.isDigit
    let rest := r.dropWhile Char.isDigit
    if !allDigits ip || !allDigits fp then none else
    match rest with
    | [] => some (neg, ip, fp, 0)
    | c :: r2 =>
      if c = 'e' ∨ c = 'E' then
        let (eneg, r3) := match r2 with
          | '-' :: q => (true, q)
          | '+' :: q => (false, q)
          | q => (false, q)
        if allDigits r3 then
          let ev : Int := digitsToNat r3
          some (neg, ip, fp, if eneg then -ev else ev)
        else none
      else none
  | _ => none

/-- `strconv.ParseFloat(text, 10)` on a DOUBLE token (a bit size other than 32 means 64): `none` = range error (the only possible error). -/
def parseFloatLit (t : String) : Option F64 :=
  match splitDouble t.toList with
  | none => none
  | some (neg, ip, fp, ev) =>
    F64.ofDecimal neg (digitsToNat (ip ++ fp)) (ev - fp.length)

end Rules
