/-! Model: semver precedence as a total preorder (blang/semver Compare). -/
namespace Rules.Sv

inductive Ident where
  | num (n : Nat)
  | alpha (s : List Nat)      -- bytes
  deriving Repr, DecidableEq

/-- three-way comparison on lists of naturals (Go string comparison on bytes) -/
def cmpBytes : List Nat → List Nat → Ordering
  | [], [] => .eq
  | [], _ :: _ => .lt
  | _ :: _, [] => .gt
  | a :: as, b :: bs => if a < b then .lt else if b < a then .gt else cmpBytes as bs

def Ident.cmp : Ident → Ident → Ordering
  | .num a, .num b => compare a b
  | .num _, .alpha _ => .lt
  | .alpha _, .num _ => .gt
  | .alpha a, .alpha b => cmpBytes a b

/-- PRVersion list comparison: first difference decides; a longer list with equal prefix is greater -/
def cmpPre : List Ident → List Ident → Ordering
  | [], [] => .eq
  | [], _ :: _ => .lt
  | _ :: _, [] => .gt
  | a :: as, b :: bs => match a.cmp b with
    | .eq => cmpPre as bs
    | o => o

structure Version where
  major : Nat
  minor : Nat
  patch : Nat
  pre : List Ident
  build : List (List Nat)
  deriving Repr, DecidableEq

/-- blang/semver Version.Compare -/
def Version.cmp (v o : Version) : Ordering :=
  if v.major ≠ o.major then compare v.major o.major
  else if v.minor ≠ o.minor then compare v.minor o.minor
  else if v.patch ≠ o.patch then compare v.patch o.patch
  else match v.pre, o.pre with
    | [], [] => .eq
    | [], _ :: _ => .gt
    | _ :: _, [] => .lt
    | a, b => cmpPre a b

/-- a three-way comparison of a total preorder: antisymmetric up to `swap`, `<` transitive, and `.eq` a congruence (two
elements that compare equal compare alike with every third one; equality of the elements themselves is not asked, build
metadata is ignored by `Sv.cmp`) -/
structure Good {α} (c : α → α → Ordering) : Prop where
  swap : ∀ a b, c b a = (c a b).swap
  trans_lt : ∀ a b d, c a b = .lt → c b d = .lt → c a d = .lt
  eq_trans_l : ∀ a b d, c a b = .eq → c b d = c a d

theorem good_nat : Good (compare : Nat → Nat → Ordering) where
  swap a b := (Nat.compare_swap a b).symm
  trans_lt a b d h1 h2 := by rw [Nat.compare_eq_lt] at *; omega
  eq_trans_l a b d h := by rw [Nat.compare_eq_eq.1 h]

namespace Good
variable {α} {c c' : α → α → Ordering} (g : Good c)
include g

theorem gt_iff_lt {a b : α} : c a b = .gt ↔ c b a = .lt := by
  rw [g.swap b a, Ordering.swap_eq_gt]

theorem lt_of_lt_of_eq {a b d : α} (h1 : c a b = .lt) (h2 : c b d = .eq) : c a d = .lt := by
  rw [← g.gt_iff_lt] at h1 ⊢
  rwa [g.eq_trans_l b d a h2]

theorem mono {a v w : α} (h : c v w = .lt ∨ c v w = .eq) :
    (c a v = .lt → c a w = .lt) ∧ (c a w = .gt → c a v = .gt) := by
  rw [g.gt_iff_lt, g.gt_iff_lt]
  rcases h with h | h
  · exact ⟨fun h1 => g.trans_lt _ _ _ h1 h, g.trans_lt _ _ _ h⟩
  · exact ⟨fun h1 => g.lt_of_lt_of_eq h1 h, fun h1 => g.eq_trans_l v w a h ▸ h1⟩

/-! One step of a lexicographic comparison is `(c a b).then p`: the heads are compared by a good `c`, and `p`, `q`, `r`
stand for the comparisons of the three rests, of which only the instance of the law in question is asked. -/

theorem then_trans_lt {a b d : α} {p q r : Ordering} (hr : p = .lt → q = .lt → r = .lt)
    (h1 : (c a b).then p = .lt) (h2 : (c b d).then q = .lt) : (c a d).then r = .lt := by
  rw [Ordering.then_eq_lt] at *
  rcases h1 with h1 | ⟨e1, h1⟩
  · rcases h2 with h2 | ⟨e2, _⟩
    · exact .inl (g.trans_lt _ _ _ h1 h2)
    · exact .inl (g.lt_of_lt_of_eq h1 e2)
  · rw [← g.eq_trans_l a b d e1]
    exact h2.imp_right fun ⟨e2, h2⟩ => ⟨e2, hr h1 h2⟩

theorem then_eq_trans_l {a b d : α} {p q r : Ordering} (hr : p = .eq → q = r) (h : (c a b).then p = .eq) :
    (c b d).then q = (c a d).then r := by
  obtain ⟨e, hp⟩ := Ordering.then_eq_eq.1 h
  rw [g.eq_trans_l a b d e, hr hp]

theorem lex (g' : Good c') : Good fun a b => (c a b).then (c' a b) where
  swap a b := by rw [Ordering.swap_then, ← g.swap, ← g'.swap]
  trans_lt a b d := g.then_trans_lt (g'.trans_lt a b d)
  eq_trans_l a b d := g.then_eq_trans_l (g'.eq_trans_l a b d)

theorem on {β} (f : β → α) : Good fun a b => c (f a) (f b) :=
  ⟨fun _ _ => g.swap _ _, fun _ _ _ => g.trans_lt _ _ _, fun _ _ _ => g.eq_trans_l _ _ _⟩

end Good

/-- lexicographic lifting, a proper prefix is smaller -/
def lexCmp {α} (c : α → α → Ordering) : List α → List α → Ordering
  | [], [] => .eq
  | [], _ :: _ => .lt
  | _ :: _, [] => .gt
  | a :: as, b :: bs => match c a b with
    | .eq => lexCmp c as bs
    | o => o

theorem lexCmp_cons {α} (c : α → α → Ordering) (x y : α) (xs ys : List α) :
    lexCmp c (x :: xs) (y :: ys) = (c x y).then (lexCmp c xs ys) := rfl

theorem good_lex {α} (c : α → α → Ordering) (g : Good c) : Good (lexCmp c) where
  swap := swap
  trans_lt := trans_lt
  eq_trans_l := eq_trans_l
where
  swap : ∀ a b, lexCmp c b a = (lexCmp c a b).swap
    | [], [] | [], _ :: _ | _ :: _, [] => rfl
    | x :: xs, y :: ys => by rw [lexCmp_cons, lexCmp_cons, Ordering.swap_then, ← g.swap, ← swap xs ys]
  trans_lt : ∀ a b d, lexCmp c a b = .lt → lexCmp c b d = .lt → lexCmp c a d = .lt
    | [], [], _, h, _ | _ :: _, [], _, h, _ | _, _ :: _, [], _, h => nomatch h
    | [], _ :: _, _ :: _, _, _ => rfl
    | x :: xs, y :: ys, z :: zs, h1, h2 => g.then_trans_lt (trans_lt xs ys zs) h1 h2
  eq_trans_l : ∀ a b d, lexCmp c a b = .eq → lexCmp c b d = lexCmp c a d
    | [], _ :: _, _, h | _ :: _, [], _, h => nomatch h
    | [], [], _, _ | _ :: _, _ :: _, [], _ => rfl
    | x :: xs, y :: ys, z :: zs, h => g.then_eq_trans_l (eq_trans_l xs ys zs) h

end Rules.Sv
