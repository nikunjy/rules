import RulesModel.Model.Regex
/-! Model: maximal-munch lexer over a rule table; regex combinators; theorems. -/
namespace Rules
open Regex

abbrev Kind := Nat

structure Token where
  kind : Kind
  text : List Char
  deriving Repr, DecidableEq

/-- best (longest, then earliest) non-empty match among the rules at the head of `s` -/
def bestMatch (rules : List (Kind × Regex)) (s : List Char) : Option (Kind × Nat) :=
  rules.foldl (fun acc (k, r) =>
    match longest r s with
    | some n => if n = 0 then acc else
        match acc with
        | some (_, m) => if m < n then some (k, n) else acc
        | none => some (k, n)
    | none => acc) none

def lexFuel (rules : List (Kind × Regex)) : Nat → List Char → Option (List Token)
  | _, [] => some []
  | 0, _ :: _ => none
  | fuel + 1, s@(_ :: _) =>
    match bestMatch rules s with
    | none => none
    | some (k, n) =>
      match lexFuel rules fuel (s.drop n) with
      | none => none
      | some ts => some (⟨k, s.take n⟩ :: ts)

def lex (rules : List (Kind × Regex)) (s : List Char) : Option (List Token) := lexFuel rules s.length s

/-! ### regex combinators (the tables under `Generated/` and `Expected/` are written with the constructors) -/
def lit (s : String) : Regex := s.toList.foldr (fun c r => .seq (.range c.toNat c.toNat) r) .eps
def alts : List Regex → Regex
  | [] => .empty
  | [r] => r
  | r :: rs => .alt r (alts rs)
def opt (r : Regex) : Regex := .alt r .eps
def plus (r : Regex) : Regex := .seq r (.star r)
def ch (c : Char) : Regex := .range c.toNat c.toNat
def rng (a b : Char) : Regex := .range a.toNat b.toNat

/-- the length held by the accumulator of `bestMatch` -/
def accLen (acc : Option (Kind × Nat)) : Nat := acc.elim 0 (·.2)

/-- one step of the fold in `bestMatch`: a rule replaces the accumulator iff it matches strictly more -/
def munchStep (s : List Char) (acc : Option (Kind × Nat)) (kr : Kind × Regex) : Option (Kind × Nat) :=
  if accLen acc < kr.2.matchLen s then some (kr.1, kr.2.matchLen s) else acc

theorem bestMatch_eq_fold (rules : List (Kind × Regex)) (s : List Char) :
    bestMatch rules s = rules.foldl (munchStep s) none := by
  unfold bestMatch
  congr 1
  funext acc ⟨k, r⟩
  simp only [munchStep, matchLen, accLen]
  split
  · rename_i n h
    by_cases hn : n = 0
    · simp [h, hn]
    · rcases acc with _ | ⟨_, m⟩ <;> simp [h, hn, Nat.pos_of_ne_zero hn]
  · rename_i h; simp [h]

theorem foldl_munchStep (s : List Char) : ∀ (rs : List (Kind × Regex)) (acc : Option (Kind × Nat)),
    (rs.foldl (munchStep s) acc = acc ∧ ∀ x ∈ rs, x.2.matchLen s ≤ accLen acc) ∨
    ∃ i, ∃ hi : i < rs.length, rs.foldl (munchStep s) acc = some (rs[i].1, rs[i].2.matchLen s) ∧
      accLen acc < rs[i].2.matchLen s ∧ (∀ x ∈ rs, x.2.matchLen s ≤ rs[i].2.matchLen s) ∧
      ∀ x ∈ rs.take i, x.2.matchLen s < rs[i].2.matchLen s
  | [], acc => .inl ⟨rfl, by simp⟩
  | x :: rs, acc => by
    have ih := foldl_munchStep s rs (munchStep s acc x)
    simp only [List.foldl_cons, List.mem_cons, forall_eq_or_imp]
    by_cases hlt : accLen acc < x.2.matchLen s
    · rw [munchStep, if_pos hlt] at ih ⊢
      rcases ih with ⟨h1, h2⟩ | ⟨i, hi, h1, h2, h3, h4⟩
      · exact .inr ⟨0, by simp, h1, hlt, ⟨Nat.le_refl _, h2⟩, by simp⟩
      · refine .inr ⟨i + 1, Nat.succ_lt_succ hi, h1, ?_⟩
        simp only [List.getElem_cons_succ, List.take_succ_cons, List.mem_cons, forall_eq_or_imp]
        exact ⟨Nat.lt_trans hlt h2, ⟨Nat.le_of_lt h2, h3⟩, h2, h4⟩
    · rw [munchStep, if_neg hlt] at ih ⊢
      rcases ih with ⟨h1, h2⟩ | ⟨i, hi, h1, h2, h3, h4⟩
      · exact .inl ⟨h1, Nat.le_of_not_lt hlt, h2⟩
      · refine .inr ⟨i + 1, Nat.succ_lt_succ hi, h1, ?_⟩
        simp only [List.getElem_cons_succ, List.take_succ_cons, List.mem_cons, forall_eq_or_imp]
        exact ⟨h2, ⟨by omega, h3⟩, by omega, h4⟩

/-- **Longest match, first rule.** `bestMatch` returns the first rule of the table among those of greatest (non-zero)
match length at the head of `s`, with that length. -/
theorem bestMatch_eq_some_iff {rules : List (Kind × Regex)} {s : List Char} {k : Kind} {n : Nat} :
    bestMatch rules s = some (k, n) ↔ 0 < n ∧ ∃ i, ∃ hi : i < rules.length, rules[i].1 = k ∧ rules[i].2.matchLen s = n ∧
      (∀ x ∈ rules, x.2.matchLen s ≤ n) ∧ ∀ j, ∀ hj : j < rules.length, j < i → rules[j].2.matchLen s < n := by
  have before : ∀ {i j : Nat} (hj : j < rules.length), j < i → rules[j] ∈ rules.take i := fun hj hji =>
    List.mem_take_iff_getElem.2 ⟨_, by omega, rfl⟩
  rw [bestMatch_eq_fold]
  rcases foldl_munchStep s rules none with ⟨h1, h2⟩ | ⟨i, hi, h1, h2, h3, h4⟩
  · rw [h1]
    refine ⟨nofun, fun ⟨hn, i, hi, _, e, _⟩ => ?_⟩
    have := h2 _ (List.getElem_mem hi)
    simp only [accLen, Option.elim] at this
    omega
  · rw [h1]
    constructor
    · rintro ⟨⟩
      exact ⟨Nat.zero_lt_of_lt h2, i, hi, rfl, rfl, h3, fun j hj hji => h4 _ (before hj hji)⟩
    · rintro ⟨_, i', hi', rfl, rfl, h3', h4'⟩
      -- `i` and `i'` are both the first index of greatest match length
      have : i = i' := by
        have a := h3 _ (List.getElem_mem hi')
        have b := h3' _ (List.getElem_mem hi)
        rcases Nat.lt_trichotomy i i' with h | h | h
        · have := h4' i hi h; omega
        · exact h
        · have := h4 _ (before hi' h); omega
      subst this; rfl

theorem bestMatch_pos (rules : List (Kind × Regex)) (s : List Char) (k : Kind) (n : Nat)
    (h : bestMatch rules s = some (k, n)) : 0 < n ∧ n ≤ s.length ∧ ∃ r, (k, r) ∈ rules ∧ Matches r (s.take n) := by
  obtain ⟨hn, i, hi, rfl, rfl, _⟩ := bestMatch_eq_some_iff.1 h
  exact ⟨hn, matchLen_le _ s, _, List.getElem_mem hi, matches_matchLen hn⟩

theorem bestMatch_full (rules : List (Kind × Regex)) (s : List Char) (hs : s ≠ []) (i : Nat) (hi : i < rules.length)
    (hm : Matches (rules[i]).2 s) (hfirst : ∀ j, ∀ hj : j < rules.length, j < i → ¬ Matches (rules[j]).2 s) :
    bestMatch rules s = some ((rules[i]).1, s.length) :=
  bestMatch_eq_some_iff.2 ⟨List.length_pos_iff.2 hs, i, hi, rfl, (matchLen_eq_length_iff hs).2 hm,
    fun x _ => matchLen_le x.2 s, fun j hj hji => Nat.lt_of_le_of_ne (matchLen_le _ s) fun e =>
      hfirst j hj hji ((matchLen_eq_length_iff hs).1 e)⟩

theorem bestMatch_congr (rules : List (Kind × Regex)) (s s' : List Char)
    (h : ∀ x ∈ rules, longest x.2 s = longest x.2 s') : bestMatch rules s = bestMatch rules s' := by
  rw [bestMatch_eq_fold, bestMatch_eq_fold]
  generalize (none : Option (Kind × Nat)) = acc
  induction rules generalizing acc with
  | nil => rfl
  | cons x rs ih =>
    rw [List.foldl_cons, List.foldl_cons, munchStep, munchStep, matchLen, matchLen, h x List.mem_cons_self]
    exact ih (fun y hy => h y (List.mem_cons_of_mem _ hy)) _

/-- `t` is what the lexer takes at the head of `t.text ++ rest` -/
def Takes (rules : List (Kind × Regex)) (t : Token) (rest : List Char) : Prop :=
  t.text ≠ [] ∧ bestMatch rules (t.text ++ rest) = some (t.kind, t.text.length)

/-- every token is what the lexer takes at the head of the text from there on -/
def TakesAll (rules : List (Kind × Regex)) : List Token → Prop
  | [] => True
  | t :: ts => Takes rules t (ts.flatMap (·.text)) ∧ TakesAll rules ts

theorem TakesAll.takes {rules : List (Kind × Regex)} : ∀ {ts : List Token}, TakesAll rules ts → ∀ t ∈ ts, ∃ rest, Takes rules t rest
  | _ :: _, h, t, ht => by
    rcases List.mem_cons.1 ht with rfl | ht
    · exact ⟨_, h.1⟩
    · exact h.2.takes t ht

theorem lexFuel_takesAll (rules : List (Kind × Regex)) (fuel : Nat) (s : List Char) (ts : List Token)
    (h : lexFuel rules fuel s = some ts) : ts.flatMap (·.text) = s ∧ TakesAll rules ts := by
  fun_induction lexFuel rules fuel s generalizing ts with
  | case1 => cases h; exact ⟨rfl, trivial⟩
  | case2 | case3 | case4 => cases h
  | case5 fuel c cs k n hb ts' hrec ih =>
    cases h
    obtain ⟨e, hall⟩ := ih ts' hrec
    obtain ⟨hn, hle, _⟩ := bestMatch_pos rules _ k n hb
    refine ⟨by simp [e], ⟨?_, ?_⟩, hall⟩
    · exact fun h0 => by simp at h0; omega
    · simp only [e, List.take_append_drop, List.length_take, Nat.min_eq_left hle]; exact hb

theorem takesAll_lexFuel (rules : List (Kind × Regex)) : ∀ (ts : List Token) (fuel : Nat), TakesAll rules ts →
    (ts.flatMap (·.text)).length ≤ fuel → lexFuel rules fuel (ts.flatMap (·.text)) = some ts
  | [], _, _, _ => by simp [lexFuel]
  | ⟨_, []⟩ :: _, _, ⟨⟨hne, _⟩, _⟩, _ => absurd rfl hne
  | ⟨_, _ :: _⟩ :: _, 0, _, hf => by simp at hf
  | ⟨k, c :: w⟩ :: ts, f + 1, ⟨⟨_, hb⟩, hall⟩, hf => by
    have ih := takesAll_lexFuel rules ts f hall
      (by simp only [List.flatMap_cons, List.length_append, List.length_cons] at hf; omega)
    simp only [List.flatMap_cons, List.cons_append] at hb ⊢
    rw [lexFuel, hb]
    simp [ih]

/-- **The lexer, without fuel.** `lex` returns `ts` exactly when the texts of `ts` concatenate to the input and every
token is the maximal-munch choice at the head of what is left. -/
theorem lex_eq_some_iff {rules : List (Kind × Regex)} {s : List Char} {ts : List Token} :
    lex rules s = some ts ↔ ts.flatMap (·.text) = s ∧ TakesAll rules ts :=
  ⟨lexFuel_takesAll rules _ s ts, fun ⟨e, h⟩ => e ▸ takesAll_lexFuel rules ts _ h (Nat.le_refl _)⟩

theorem lexFuel_partition (rules : List (Kind × Regex)) (fuel : Nat) (s : List Char) (ts : List Token)
    (h : lexFuel rules fuel s = some ts) : (ts.map (·.text)).flatten = s := by
  rw [← List.flatMap_def]; exact (lexFuel_takesAll rules fuel s ts h).1

end Rules
