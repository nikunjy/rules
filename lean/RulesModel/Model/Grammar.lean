/-! Model: JsonQuery `query` rule — derivation relation, recursive-descent parser. -/
namespace Rules.P

abbrev Kind := Nat
structure Tok where
  kind : Kind
  text : String
  deriving Repr, DecidableEq

-- token kinds (JsonQuery.tokens)
def LP := 1  def RP := 2  def PR := 3  def DOT := 4  def MINUS := 5  def LB := 6  def RB := 7
def NOT := 8 def LOGOP := 9 def BOOLEAN := 10 def NULL := 11
def ATTR := 22 def VERSION := 23 def STRING := 24 def DOUBLE := 25 def INT := 26 def EXP := 27
def COMMA := 29 def SP := 30

def isCmp (k : Kind) : Bool := 12 ≤ k && k ≤ 21

inductive Lit where
  | bool (t : String) | null | version (t : String) | str (t : String) | double (t : String)
  | long (neg : Bool) (i : String) (e : Option String)
  | list (k : Kind) (xs : List String)         -- k ∈ {INT, DOUBLE, STRING}
  deriving Repr, DecidableEq

inductive Tree where
  | paren (neg : Bool) (q : Tree)
  | logical (op : String) (l r : Tree)
  | present (path : List String)
  | compare (path : List String) (op : Kind) (v : Lit)
  deriving Repr, DecidableEq

/-! ### derivations -/
inductive DPath : List Tok → List String → Prop
  | one (n) : DPath [⟨ATTR, n⟩] [n]
  | dot (n d) {ts p} : DPath ts p → DPath (⟨ATTR, n⟩ :: ⟨DOT, d⟩ :: ts) (n :: p)

inductive DList (k : Kind) : List Tok → List String → Prop
  | last (t b) : DList k [⟨k, t⟩, ⟨RB, b⟩] [t]
  | cons (t c) {ts xs} : DList k ts xs → DList k (⟨k, t⟩ :: ⟨COMMA, c⟩ :: ts) (t :: xs)

inductive DValue : List Tok → Lit → Prop
  | bool (t) : DValue [⟨BOOLEAN, t⟩] (.bool t)
  | null (t) : DValue [⟨NULL, t⟩] .null
  | version (t) : DValue [⟨VERSION, t⟩] (.version t)
  | str (t) : DValue [⟨STRING, t⟩] (.str t)
  | double (t) : DValue [⟨DOUBLE, t⟩] (.double t)
  | long (m : Option String) (i) (e : Option String) :
      DValue ((m.toList.map (⟨MINUS, ·⟩)) ++ [⟨INT, i⟩] ++ (e.toList.map (⟨EXP, ·⟩))) (.long m.isSome i e)
  | list (k) (hk : k = INT ∨ k = DOUBLE ∨ k = STRING) (b) {ts xs} : DList k ts xs → DValue (⟨LB, b⟩ :: ts) (.list k xs)

def optTok (k : Kind) (o : Option String) : List Tok := o.toList.map (⟨k, ·⟩)

/-- `D true` = primary (parenExp | presentExp | compareExp), `D false` = query (left-associative chain) -/
inductive D : Bool → List Tok → Tree → Prop
  | paren (n s1 s2 s3 : Option String) (l r : String) {ts t} : D false ts t →
      D true (optTok NOT n ++ optTok SP s1 ++ [⟨LP, l⟩] ++ optTok SP s2 ++ ts ++ optTok SP s3 ++ [⟨RP, r⟩]) (.paren n.isSome t)
  | present (s pr : String) {ps p} : DPath ps p → D true (ps ++ [⟨SP, s⟩, ⟨PR, pr⟩]) (.present p)
  | compare (s1 o s2 : String) (k : Kind) (hk : isCmp k = true) {ps p vs v} : DPath ps p → DValue vs v →
      D true (ps ++ [⟨SP, s1⟩, ⟨k, o⟩, ⟨SP, s2⟩] ++ vs) (.compare p k v)
  | prim {ts t} : D true ts t → D false ts t
  | logical (s1 op s2 : String) {ts1 t1 ts2 t2} : D false ts1 t1 → D true ts2 t2 →
      D false (ts1 ++ [⟨SP, s1⟩, ⟨LOGOP, op⟩, ⟨SP, s2⟩] ++ ts2) (.logical op t1 t2)

/-! ### parser -/
def parsePath : List Tok → Option (List String × List Tok)
  | ⟨k, n⟩ :: ⟨k2, d⟩ :: rest =>
      if k = ATTR then
        if k2 = DOT then (match parsePath rest with | some (p, r) => some (n :: p, r) | none => none)
        else some ([n], ⟨k2, d⟩ :: rest)
      else none
  | [⟨k, n⟩] => if k = ATTR then some ([n], []) else none
  | [] => none

def parseList (k : Kind) : List Tok → Option (List String × List Tok)
  | ⟨k1, t⟩ :: ⟨k2, _⟩ :: rest =>
      if k1 = k then
        if k2 = RB then some ([t], rest)
        else if k2 = COMMA then (match parseList k rest with | some (xs, r) => some (t :: xs, r) | none => none)
        else none
      else none
  | _ => none

def parseValue : List Tok → Option (Lit × List Tok)
  | [] => none
  | ⟨k, t⟩ :: rest =>
    if k = BOOLEAN then some (.bool t, rest)
    else if k = NULL then some (.null, rest)
    else if k = VERSION then some (.version t, rest)
    else if k = STRING then some (.str t, rest)
    else if k = DOUBLE then some (.double t, rest)
    else if k = INT then
      (match rest with
       | ⟨k2, e⟩ :: rest2 => if k2 = EXP then some (.long false t (some e), rest2) else some (.long false t none, rest)
       | [] => some (.long false t none, []))
    else if k = MINUS then
      (match rest with
       | ⟨k1, i⟩ :: rest1 =>
         if k1 = INT then
           (match rest1 with
            | ⟨k2, e⟩ :: rest2 => if k2 = EXP then some (.long true i (some e), rest2) else some (.long true i none, rest1)
            | [] => some (.long true i none, []))
         else none
       | [] => none)
    else if k = LB then
      (match rest with
       | ⟨k1, _⟩ :: _ =>
         if k1 = INT ∨ k1 = DOUBLE ∨ k1 = STRING then
           (match parseList k1 rest with | some (xs, r) => some (.list k1 xs, r) | none => none)
         else none
       | [] => none)
    else none

def eatOpt (k : Kind) : List Tok → Bool × List Tok
  | ⟨k1, t⟩ :: rest => if k1 = k then (true, rest) else (false, ⟨k1, t⟩ :: rest)
  | [] => (false, [])

mutual
def parsePrim : Nat → List Tok → Option (Tree × List Tok)
  | 0, _ => none
  | fuel + 1, ts =>
    let (neg, ts1) := eatOpt NOT ts
    let (_, ts2) := eatOpt SP ts1
    match ts2 with
    | ⟨k, _⟩ :: ts3 =>
      if k = LP then
        let (_, ts4) := eatOpt SP ts3
        match parseQuery fuel ts4 with
        | none => none
        | some (q, ts5) =>
          let (_, ts6) := eatOpt SP ts5
          match ts6 with
          | ⟨k', _⟩ :: ts7 => if k' = RP then some (.paren neg q, ts7) else none
          | [] => none
      else if neg then none
      else
        -- attrPath SP (pr | op SP value); note: no NOT / SP was eaten here unless followed by '(' … must restart from ts
        match parsePath ts with
        | none => none
        | some (p, r1) =>
          match r1 with
          | ⟨k1, _⟩ :: ⟨k2, _⟩ :: r2 =>
            if k1 = SP then
              if k2 = PR then some (.present p, r2)
              else if isCmp k2 then
                match r2 with
                | ⟨k3, _⟩ :: r3 =>
                  if k3 = SP then (match parseValue r3 with | some (v, r4) => some (.compare p k2 v, r4) | none => none)
                  else none
                | [] => none
              else none
            else none
          | _ => none
    | [] => none
def parseQuery : Nat → List Tok → Option (Tree × List Tok)
  | 0, _ => none
  | fuel + 1, ts =>
    match parsePrim fuel ts with
    | none => none
    | some (t, rest) => parseLoop fuel t rest
def parseLoop : Nat → Tree → List Tok → Option (Tree × List Tok)
  | 0, _, _ => none
  | fuel + 1, acc, ts =>
    match ts with
    | ⟨k1, _⟩ :: ⟨k2, op⟩ :: ⟨k3, s⟩ :: rest =>
      if k1 = SP ∧ k2 = LOGOP then
        if k3 = SP then
          match parsePrim fuel rest with
          | none => none
          | some (t, rest') => parseLoop fuel (.logical op acc t) rest'
        else none
      else some (acc, ts)
    | _ => some (acc, ts)
end

def parse (ts : List Tok) : Option Tree :=
  match parseQuery (2 * ts.length + 2) ts with
  | some (t, []) => some t
  | _ => none

-- sanity
def T (k : Kind) (s : String := "") : Tok := ⟨k, s⟩
#eval parse [T ATTR "a", T SP, T 13, T SP, T INT "1", T SP, T LOGOP "or", T SP, T ATTR "b", T SP, T PR, T SP, T LOGOP "and", T SP, T NOT, T SP, T LP, T SP, T ATTR "c", T DOT, T ATTR "d", T SP, T 12, T SP, T LB, T INT "1", T COMMA, T INT "2", T RB, T RP]

end Rules.P
