import RulesModel.Model.Regex
/-!
ε-NFAs over characters and a checkable bisimulation certificate. Two automata accept the same language from two sets of
states when a finite list of pairs of state sets is closed under "read one character" on both sides and paired sets
agree on acceptance. `checkCert` is that test, executable; `cert_sound` makes its verdict a statement about all strings.
Characters are handled through a finite partition of the code points into intervals on which every character test on the
edges out of a set is constant (`uniformB`), so one representative per interval decides the whole interval.
Used for the lexer ATN shipped in `jsonquery_lexer.go` against the token rules of `JsonQuery.g4` (`Tie/LexerATNProof`).
-/
namespace Rules.NFA

/-- a test on code points: membership in a finite union of closed intervals, possibly negated -/
structure CharPred where
  neg : Bool
  ivs : List (Nat × Nat)
  deriving DecidableEq, Repr

def CharPred.test (p : CharPred) (c : Nat) : Bool := p.neg != p.ivs.any (fun iv => decide (iv.1 ≤ c) && decide (c ≤ iv.2))

structure ENFA (σ : Type) where
  eps : σ → List σ
  chr : σ → List (CharPred × σ)
  acc : σ → Bool

variable {σ : Type}

/-- the strings accepted from a state -/
inductive Lang (M : ENFA σ) : σ → List Char → Prop
  | acc {q} : M.acc q = true → Lang M q []
  | eps {q q' s} : q' ∈ M.eps q → Lang M q' s → Lang M q s
  | chr {q p q' c s} : (p, q') ∈ M.chr q → p.test c.toNat = true → Lang M q' s → Lang M q (c :: s)

def LangSet (M : ENFA σ) (S : List σ) (s : List Char) : Prop := ∃ q ∈ S, Lang M q s

variable [DecidableEq σ]

def closedB (M : ENFA σ) (S : List σ) : Bool := S.all fun q => (M.eps q).all fun q' => S.contains q'

theorem closed_mem {M : ENFA σ} {S : List σ} (h : closedB M S = true) {q q' : σ} (hq : q ∈ S) (he : q' ∈ M.eps q) : q' ∈ S := by
  have := List.all_eq_true.1 (List.all_eq_true.1 h q hq) q' he
  simpa using this

/-- what a member of an ε-closed set accepts is accepted by a member without a leading ε-move -/
theorem lang_closed {M : ENFA σ} {S : List σ} (hc : closedB M S = true) {q : σ} {s : List Char} (h : Lang M q s)
    (hq : q ∈ S) : ∃ q' ∈ S, (s = [] ∧ M.acc q' = true) ∨
      ∃ p y c t, s = c :: t ∧ (p, y) ∈ M.chr q' ∧ p.test c.toNat = true ∧ Lang M y t := by
  induction h with
  | acc ha => exact ⟨_, hq, .inl ⟨rfl, ha⟩⟩
  | eps he _ ih => exact ih (closed_mem hc hq he)
  | chr hm ht hl _ => exact ⟨_, hq, .inr ⟨_, _, _, _, rfl, hm, ht, hl⟩⟩

def ivUniform (iv : Nat × Nat) (a b : Nat) : Bool := decide (b < iv.1) || decide (iv.2 < a) || (decide (iv.1 ≤ a) && decide (b ≤ iv.2))

def uniformB (M : ENFA σ) (S : List σ) (a b : Nat) : Bool :=
  S.all fun q => (M.chr q).all fun py => py.1.ivs.all fun iv => ivUniform iv a b

theorem any_uniform (ivs : List (Nat × Nat)) (a b x y : Nat) (h : ivs.all (fun iv => ivUniform iv a b) = true)
    (hx : a ≤ x ∧ x ≤ b) (hy : a ≤ y ∧ y ≤ b) :
    ivs.any (fun iv => decide (iv.1 ≤ x) && decide (x ≤ iv.2)) = ivs.any (fun iv => decide (iv.1 ≤ y) && decide (y ≤ iv.2)) := by
  induction ivs with
  | nil => rfl
  | cons iv rest ih =>
    simp only [List.all_cons, ivUniform, Bool.and_eq_true, Bool.or_eq_true, decide_eq_true_eq] at h
    rw [List.any_cons, List.any_cons, ih h.2]
    congr 1
    -- `[a, b]` lies to the left of `iv`, to its right, or inside it
    rw [Bool.eq_iff_iff]
    simp only [Bool.and_eq_true, decide_eq_true_eq]
    omega

theorem test_uniform (p : CharPred) (a b x y : Nat) (h : p.ivs.all (fun iv => ivUniform iv a b) = true)
    (hx : a ≤ x ∧ x ≤ b) (hy : a ≤ y ∧ y ≤ b) : p.test x = p.test y := by
  unfold CharPred.test
  rw [any_uniform p.ivs a b x y h hx hy]

omit [DecidableEq σ] in
theorem uniform_edge {M : ENFA σ} {S : List σ} {a b : Nat} (h : uniformB M S a b = true) {q : σ} (hq : q ∈ S)
    {p : CharPred} {y : σ} (hm : (p, y) ∈ M.chr q) (x z : Nat) (hx : a ≤ x ∧ x ≤ b) (hz : a ≤ z ∧ z ≤ b) :
    p.test x = p.test z :=
  test_uniform p a b x z (List.all_eq_true.1 (List.all_eq_true.1 h q hq) (p, y) hm) hx hz

/-- every `a`-successor of a member of `P` is in `P'` -/
def coversB (M : ENFA σ) (P : List σ) (a : Nat) (P' : List σ) : Bool :=
  P.all fun q => (M.chr q).all fun py => !py.1.test a || P'.contains py.2

def direct (M : ENFA σ) (P : List σ) (a : Nat) (x : σ) : Bool :=
  P.any fun q => (M.chr q).any fun py => py.1.test a && decide (py.2 = x)

/-- the members of `P'` known to be reachable by ε-moves from members satisfying `d`, after `n` rounds -/
def justSet (M : ENFA σ) (d : σ → Bool) (P' : List σ) : Nat → List σ
  | 0 => P'.filter d
  | n + 1 => P'.filter fun x => (justSet M d P' n).contains x || (justSet M d P' n).any fun y => (M.eps y).contains x

/-- every member of `P'` is reachable by ε-moves from a member satisfying `d` -/
def justB (M : ENFA σ) (d : σ → Bool) (P' : List σ) : Bool :=
  P'.all fun x => (justSet M d P' P'.length).contains x

theorem mem_justSet_zero {M : ENFA σ} {d : σ → Bool} {P' : List σ} {x : σ} :
    x ∈ justSet M d P' 0 ↔ x ∈ P' ∧ d x = true := by
  simp [justSet]

theorem mem_justSet_succ {M : ENFA σ} {d : σ → Bool} {P' : List σ} {n : Nat} {x : σ} :
    x ∈ justSet M d P' (n + 1) ↔ x ∈ P' ∧ (x ∈ justSet M d P' n ∨ ∃ y ∈ justSet M d P' n, x ∈ M.eps y) := by
  simp [justSet]

theorem just_all {M : ENFA σ} {d : σ → Bool} {P' : List σ} (hj : justB M d P' = true) (Good : List Char → Prop)
    (h0 : ∀ x, d x = true → ∀ t, Lang M x t → Good t) : ∀ x ∈ P', ∀ t, Lang M x t → Good t := by
  have ind : ∀ n, ∀ x ∈ justSet M d P' n, ∀ t, Lang M x t → Good t := by
    intro n
    induction n with
    | zero => exact fun x hx => h0 x (mem_justSet_zero.1 hx).2
    | succ n ih =>
      intro x hx
      rcases (mem_justSet_succ.1 hx).2 with h | ⟨y, hy, he⟩
      · exact ih x h
      · exact fun t hl => ih y hy t (.eps he hl)
  exact fun x hx => ind _ x (by simpa using List.all_eq_true.1 hj x hx)

theorem just_sound {M : ENFA σ} {P P' : List σ} {a b r : Nat} (hu : uniformB M P a b = true) (hr : a ≤ r ∧ r ≤ b)
    (hj : justB M (direct M P r) P' = true) (c : Char) (hc : a ≤ c.toNat ∧ c.toNat ≤ b) (t : List Char) :
    ∀ x ∈ P', Lang M x t → LangSet M P (c :: t) := by
  intro x hx hl
  refine just_all hj (fun t => LangSet M P (c :: t)) ?_ x hx t hl
  intro x hd t hl
  simp only [direct, List.any_eq_true, Bool.and_eq_true, decide_eq_true_eq] at hd
  obtain ⟨q, hq, py, hm, ht, he⟩ := hd
  subst he
  have := uniform_edge hu hq (p := py.1) (y := py.2) hm r c.toNat hr hc
  exact ⟨q, hq, .chr hm (by rw [← this]; exact ht) hl⟩

theorem just_start {M : ENFA σ} {q0 : σ} {S : List σ} (hj : justB M (fun x => decide (x = q0)) S = true) (t : List Char) :
    LangSet M S t → Lang M q0 t := by
  rintro ⟨x, hx, hl⟩
  refine just_all hj (Lang M q0) ?_ x hx t hl
  intro x hd t hl
  simp only [decide_eq_true_eq] at hd
  subst hd; exact hl

/-- the intervals cover the code points `0 … 0x10FFFF` without a gap, starting at `lo` -/
def coverB : Nat → List (Nat × Nat) → Bool
  | lo, [] => decide (0x10FFFF < lo)
  | lo, (a, b) :: rest => decide (a = lo) && decide (a ≤ b) && coverB (b + 1) rest

theorem cover_find : ∀ (cls : List (Nat × Nat)) (lo x : Nat), coverB lo cls = true → lo ≤ x → x ≤ 0x10FFFF →
    ∃ ab ∈ cls, ab.1 ≤ x ∧ x ≤ ab.2
  | [], lo, x, h, h1, h2 => by simp [coverB] at h; omega
  | (a, b) :: rest, lo, x, h, h1, h2 => by
    simp only [coverB, Bool.and_eq_true, decide_eq_true_eq] at h
    by_cases hx : x ≤ b
    · exact ⟨(a, b), by simp, by simp; omega, hx⟩
    · obtain ⟨ab, hm, hab⟩ := cover_find rest (b + 1) x h.2 (by omega) h2
      exact ⟨ab, by simp [hm], hab⟩

structure Cert (σ₁ σ₂ : Type) where
  pairs : List (List σ₁ × List σ₂)
  classes : List (Nat × Nat)

variable {σ₁ σ₂ : Type} [DecidableEq σ₁] [DecidableEq σ₂]

def succOK (M : ENFA σ) (P : List σ) (a : Nat) (P' : List σ) : Bool := coversB M P a P' && justB M (direct M P a) P'

def checkPair (M₁ : ENFA σ₁) (M₂ : ENFA σ₂) (C : Cert σ₁ σ₂) (PQ : List σ₁ × List σ₂) : Bool :=
  closedB M₁ PQ.1 && closedB M₂ PQ.2 && (PQ.1.any M₁.acc == PQ.2.any M₂.acc) &&
  C.classes.all fun ab =>
    uniformB M₁ PQ.1 ab.1 ab.2 && uniformB M₂ PQ.2 ab.1 ab.2 &&
    C.pairs.any fun PQ' => succOK M₁ PQ.1 ab.1 PQ'.1 && succOK M₂ PQ.2 ab.1 PQ'.2

def checkCert (M₁ : ENFA σ₁) (M₂ : ENFA σ₂) (C : Cert σ₁ σ₂) : Bool :=
  coverB 0 C.classes && C.pairs.all (checkPair M₁ M₂ C)

omit [DecidableEq σ₂] in
/-- one direction of the empty string, symmetric in the two automata -/
theorem nil_half {M : ENFA σ} {M' : ENFA σ₂} {P : List σ} {Q : List σ₂} (hcP : closedB M P = true)
    (hacc : P.any M.acc = Q.any M'.acc) (h : LangSet M P []) : LangSet M' Q [] := by
  obtain ⟨q, hq, hl⟩ := h
  obtain ⟨q', hq', ⟨-, ha⟩ | ⟨_, _, _, _, e, _⟩⟩ := lang_closed hcP hl hq
  · obtain ⟨x, hx, hax⟩ := List.any_eq_true.1 (hacc ▸ List.any_eq_true.2 ⟨q', hq', ha⟩)
    exact ⟨x, hx, .acc hax⟩
  · cases e

/-- one direction of a step, symmetric in the two automata -/
theorem step_half {M : ENFA σ} {M' : ENFA σ₂} {P P' : List σ} {Q Q' : List σ₂} {a b : Nat}
    (hcP : closedB M P = true) (huP : uniformB M P a b = true) (huQ : uniformB M' Q a b = true)
    (hcov : coversB M P a P' = true) (hjust : justB M' (direct M' Q a) Q' = true)
    (c : Char) (hc : a ≤ c.toNat ∧ c.toNat ≤ b) (t : List Char)
    (ih : LangSet M P' t → LangSet M' Q' t) (h : LangSet M P (c :: t)) : LangSet M' Q (c :: t) := by
  obtain ⟨q, hq, hl⟩ := h
  obtain ⟨q0, hq0, ⟨e, _⟩ | ⟨p, y, _, _, e, hm, ht, hy⟩⟩ := lang_closed hcP hl hq
  · cases e
  cases e
  have ha : a ≤ a ∧ a ≤ b := ⟨Nat.le_refl a, Nat.le_trans hc.1 hc.2⟩
  have hta : p.test a = true := by
    rw [uniform_edge huP hq0 hm a c.toNat ha hc]; exact ht
  have hyP' : y ∈ P' := by
    have := List.all_eq_true.1 (List.all_eq_true.1 hcov q0 hq0) (p, y) hm
    simpa [hta] using this
  obtain ⟨x, hx, hlx⟩ := ih ⟨y, hyP', hy⟩
  exact just_sound huQ ha hjust c hc t x hx hlx

/-- **a checked certificate relates languages**: paired sets accept the same strings -/
theorem cert_sound (M₁ : ENFA σ₁) (M₂ : ENFA σ₂) (C : Cert σ₁ σ₂) (h : checkCert M₁ M₂ C = true) :
    ∀ (s : List Char) (PQ : List σ₁ × List σ₂), PQ ∈ C.pairs → (LangSet M₁ PQ.1 s ↔ LangSet M₂ PQ.2 s) := by
  simp only [checkCert, checkPair, succOK, Bool.and_eq_true, beq_iff_eq, List.all_eq_true, List.any_eq_true] at h
  obtain ⟨hcov, hall⟩ := h
  intro s
  induction s with
  | nil =>
    intro PQ hPQ
    obtain ⟨⟨⟨hc1, hc2⟩, hacc⟩, -⟩ := hall PQ hPQ
    exact ⟨nil_half hc1 hacc, nil_half hc2 hacc.symm⟩
  | cons c t ih =>
    intro PQ hPQ
    obtain ⟨⟨⟨hc1, hc2⟩, -⟩, hcls⟩ := hall PQ hPQ
    obtain ⟨ab, habm, hab⟩ := cover_find C.classes 0 c.toNat hcov (Nat.zero_le _) (char_le c)
    obtain ⟨⟨hu1, hu2⟩, PQ', hPQ', ⟨hcov1, hj1⟩, hcov2, hj2⟩ := hcls ab habm
    have ih' := ih PQ' hPQ'
    exact ⟨step_half hc1 hu1 hu2 hcov1 hj2 c hab t ih'.1, step_half hc2 hu2 hu1 hcov2 hj1 c hab t ih'.2⟩

theorem cert_start (M₁ : ENFA σ₁) (M₂ : ENFA σ₂) (C : Cert σ₁ σ₂) (h : checkCert M₁ M₂ C = true) (q₁ : σ₁) (q₂ : σ₂)
    (P : List σ₁) (Q : List σ₂) (hm : (P, Q) ∈ C.pairs) (h1 : q₁ ∈ P) (h2 : q₂ ∈ Q)
    (hj1 : justB M₁ (fun x => decide (x = q₁)) P = true) (hj2 : justB M₂ (fun x => decide (x = q₂)) Q = true)
    (s : List Char) : Lang M₁ q₁ s ↔ Lang M₂ q₂ s := by
  have := cert_sound M₁ M₂ C h s (P, Q) hm
  constructor
  · intro hl
    exact just_start hj2 s (this.1 ⟨q₁, h1, hl⟩)
  · intro hl
    exact just_start hj1 s (this.2 ⟨q₂, h2, hl⟩)

end Rules.NFA
