import RulesModel.Model.Lexer
/-! Model: static analyses on regexes and the boundary lemmas for lexer round trips (`longest_append`, `bestMatch_sep`). -/
namespace Rules
open Regex

/-- a finite union of closed code-point intervals -/
abbrev CSet := List (Nat × Nat)
def CSet.mem (s : CSet) (x : Nat) : Bool := s.any (fun (lo, hi) => lo ≤ x && x ≤ hi)

theorem CSet.mem_append (a b : CSet) (x : Nat) : (a ++ b).mem x = (a.mem x || b.mem x) := by
  simp [CSet.mem]

/-- all code points: what `notIn cs` can match is over-approximated by the whole range -/
def fullRange : CSet := [(0, 0x10FFFF)]

def firstChars : Regex → CSet
  | .empty => [] | .eps => []
  | .range lo hi => [(lo, hi)]
  | .notIn _ => fullRange
  | .seq a b => firstChars a ++ (if a.nullable then firstChars b else [])
  | .alt a b => firstChars a ++ firstChars b
  | .star a => firstChars a

def charsOf : Regex → CSet
  | .empty => [] | .eps => []
  | .range lo hi => [(lo, hi)]
  | .notIn _ => fullRange
  | .seq a b => charsOf a ++ charsOf b
  | .alt a b => charsOf a ++ charsOf b
  | .star a => charsOf a

/-- characters that may occur at a position ≥ 1 of a match -/
def tailChars : Regex → CSet
  | .empty => [] | .eps => [] | .range .. => [] | .notIn _ => []
  | .seq a b => tailChars a ++ (if (firstChars a).isEmpty then [] else charsOf b) ++ (if a.nullable then tailChars b else [])
  | .alt a b => tailChars a ++ tailChars b
  | .star a => charsOf a

theorem charsOf_sound {r : Regex} {s : List Char} (h : Matches r s) : ∀ x ∈ s, (charsOf r).mem x.toNat = true := by
  induction h with
  | eps | starNil => nofun
  | range h1 h2 => simp [charsOf, CSet.mem, h1, h2]
  | notIn _ => simp [charsOf, fullRange, CSet.mem, char_le]
  | seq _ _ ih1 ih2 =>
    intro x hx
    rw [charsOf, CSet.mem_append, Bool.or_eq_true]
    exact (List.mem_append.1 hx).imp (ih1 x) (ih2 x)
  | altL _ ih => intro x hx; rw [charsOf, CSet.mem_append, ih x hx, Bool.true_or]
  | altR _ ih => intro x hx; rw [charsOf, CSet.mem_append, ih x hx, Bool.or_true]
  | starCons _ _ ih1 ih2 => exact fun x hx => (List.mem_append.1 hx).elim (ih1 x) (ih2 x)

theorem firstChars_sound {r : Regex} {c : Char} {t : List Char} (h : Matches r (c :: t)) :
    (firstChars r).mem c.toNat = true := by
  induction r generalizing t with
  | empty | eps => cases h
  | range lo hi => cases h with | range h1 h2 => simp [firstChars, CSet.mem, h1, h2]
  | notIn cs => simp [firstChars, fullRange, CSet.mem, char_le]
  | seq a b iha ihb =>
    rw [firstChars, CSet.mem_append, Bool.or_eq_true]
    rcases matches_seq_cons_iff.1 h with ⟨_, _, -, h1, -⟩ | ⟨h1, h2⟩
    · exact .inl (iha h1)
    · exact .inr (by rw [if_pos ((nullable_iff a).2 h1)]; exact ihb h2)
  | alt a b iha ihb =>
    rw [firstChars, CSet.mem_append, Bool.or_eq_true]
    exact (matches_alt_iff.1 h).imp iha ihb
  | star a iha =>
    obtain ⟨_, _, -, h1, -⟩ := star_cons_inv h
    exact iha h1

theorem firstChars_nonempty {r : Regex} {c : Char} {t : List Char} (h : Matches r (c :: t)) :
    (firstChars r).isEmpty = false := by
  have := firstChars_sound h
  cases hf : firstChars r with
  | nil => simp [hf, CSet.mem] at this
  | cons _ _ => rfl

theorem tailChars_sound {r : Regex} {c : Char} {t : List Char} (h : Matches r (c :: t)) :
    ∀ x ∈ t, (tailChars r).mem x.toNat = true := by
  intro x hx
  induction r generalizing t with
  | empty | eps => cases h
  | range | notIn => cases h; cases hx
  | seq a b iha ihb =>
    simp only [tailChars, CSet.mem_append, Bool.or_eq_true]
    rcases matches_seq_cons_iff.1 h with ⟨s1, s2, rfl, h1, h2⟩ | ⟨h1, h2⟩
    · rcases List.mem_append.1 hx with hx | hx
      · exact .inl (.inl (iha h1 hx))
      · exact .inl (.inr (by rw [firstChars_nonempty h1]; exact charsOf_sound h2 x hx))
    · exact .inr (by rw [if_pos ((nullable_iff a).2 h1)]; exact ihb h2 hx)
  | alt a b iha ihb =>
    simp only [tailChars, CSet.mem_append, Bool.or_eq_true]
    exact (matches_alt_iff.1 h).imp (iha · hx) (ihb · hx)
  | star a _ => exact charsOf_sound h x (List.mem_cons_of_mem _ hx)

theorem longest_congr (r : Regex) (s s' : List Char)
    (h : ∀ k, (k ≤ s.length ∧ Matches r (s.take k)) ↔ (k ≤ s'.length ∧ Matches r (s'.take k))) :
    longest r s = longest r s' := by
  have h' (k : Nat) : (k ≤ s.length → ¬ Matches r (s.take k)) ↔ (k ≤ s'.length → ¬ Matches r (s'.take k)) := by
    rw [← not_and, ← not_and, h k]
  apply Option.ext
  intro n
  rw [longest_eq_some_iff, longest_eq_some_iff, ← and_assoc, ← and_assoc, h n]
  simp only [h']

/-- Every "what follows does not matter" statement (cut off by the next character, closed tokens, integers before a
non-digit) is an instance. -/
theorem longest_append (r : Regex) (w rest : List Char) (h : ∀ u, u ≠ [] → u <+: rest → ¬ Matches r (w ++ u)) :
    longest r (w ++ rest) = longest r w := by
  apply longest_congr
  intro k
  constructor
  · rintro ⟨hk, hm⟩
    by_cases hle : k ≤ w.length
    · exact ⟨hle, by rwa [List.take_append_of_le_length hle] at hm⟩
    · obtain ⟨j, rfl⟩ : ∃ j, k = w.length + (j + 1) := ⟨k - (w.length + 1), by omega⟩
      rw [List.take_length_add_append] at hm
      refine absurd hm (h _ ?_ (List.take_prefix _ _))
      rw [Ne, List.take_eq_nil_iff]
      rintro (h0 | rfl)
      · omega
      · simp at hk; omega
  · rintro ⟨hk, hm⟩
    exact ⟨by simp; omega, by rwa [List.take_append_of_le_length hk]⟩

theorem bestMatch_append (rules : List (Kind × Regex)) (w rest : List Char)
    (h : ∀ kr ∈ rules, ∀ u, u ≠ [] → u <+: rest → ¬ Matches kr.2 (w ++ u)) :
    bestMatch rules (w ++ rest) = bestMatch rules w :=
  bestMatch_congr rules _ _ fun kr hkr => longest_append kr.2 w rest (h kr hkr)

theorem longest_cut (r : Regex) (w : List Char) (c : Char) (v : List Char) (hw : w ≠ [])
    (hc : (tailChars r).mem c.toNat = false) : longest r (w ++ c :: v) = longest r w := by
  refine longest_append r w _ fun u hu hp hm => ?_
  obtain ⟨u', rfl, -⟩ := (List.prefix_cons_iff.1 hp).resolve_left hu
  obtain ⟨d, w', rfl⟩ := List.exists_cons_of_ne_nil hw
  simpa [hc] using tailChars_sound hm c (by simp)

/-- decidable side condition for "token text `w` followed by character `c`": every rule is cut off by `c` or cannot start with `w₀` -/
def sepOK (rules : List (Kind × Regex)) (w0 c : Nat) : Bool :=
  rules.all (fun (_, r) => !(tailChars r).mem c || !(firstChars r).mem w0)

/-- Separation of every `d` from every `c` can be decided rule by rule: a rule that some `c` does not cut off must start
with no `d`. Evaluated in this form a table of separations costs the sum of the two lists per rule, not their product. -/
theorem all_sepOK (rules : List (Kind × Regex)) (ds cs : List Nat) :
    (ds.all fun d => cs.all fun c => sepOK rules d c) =
      rules.all fun kr => cs.all (fun c => !(tailChars kr.2).mem c) || ds.all (fun d => !(firstChars kr.2).mem d) := by
  rw [Bool.eq_iff_iff]
  simp only [sepOK, List.all_eq_true, Bool.or_eq_true, Bool.not_eq_true']
  constructor
  · intro h kr hkr
    by_cases hc : ∀ c ∈ cs, (tailChars kr.2).mem c = false
    · exact .inl hc
    · obtain ⟨c, hcm, ht⟩ : ∃ c ∈ cs, ¬ (tailChars kr.2).mem c = false := by simpa using hc
      exact .inr fun d hd => (h d hd c hcm kr hkr).resolve_left ht
  · exact fun h d hd c hc kr hkr => (h kr hkr).imp (· c hc) (· d hd)

theorem bestMatch_sep (rules : List (Kind × Regex)) (d : Char) (w' : List Char) (c : Char) (v : List Char)
    (h : sepOK rules d.toNat c.toNat = true) :
    bestMatch rules (d :: w' ++ c :: v) = bestMatch rules (d :: w') := by
  refine bestMatch_append rules _ _ fun ⟨k, r⟩ hx u hu hp hm => ?_
  obtain ⟨u', rfl, -⟩ := (List.prefix_cons_iff.1 hp).resolve_left hu
  have := List.all_eq_true.1 h (k, r) hx
  simp only [Bool.or_eq_true, Bool.not_eq_true'] at this
  rcases this with h1 | h1
  · simpa [h1] using tailChars_sound hm c (by simp)
  · simpa [h1] using firstChars_sound hm

end Rules
