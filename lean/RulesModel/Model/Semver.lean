import RulesModel.Model.SemverOrder
/-!
# blang/semver v3.5.1 `Parse` (= `Make`) transcribed on byte strings (DESIGN-round0 §3.5)
`Version.cmp` (in SemverOrder.lean) transcribes `Compare`.
-/
namespace Rules.Sv

/-- `strings.Split(s, sep)` for a one-byte separator: always at least one part -/
def splitAll (sep : Nat) : List Nat → List (List Nat)
  | [] => [[]]
  | c :: cs =>
    if c = sep then [] :: splitAll sep cs
    else match splitAll sep cs with
      | [] => [[c]]
      | p :: ps => (c :: p) :: ps

/-- split at the first occurrence of `sep` (`strings.IndexRune` + slicing) -/
def splitFirst (sep : Nat) : List Nat → Option (List Nat × List Nat)
  | [] => none
  | c :: cs =>
    if c = sep then some ([], cs)
    else match splitFirst sep cs with
      | none => none
      | some (a, b) => some (c :: a, b)

def isDigitB (b : Nat) : Bool := 48 ≤ b && b ≤ 57
def isAlnumB (b : Nat) : Bool := isDigitB b || (65 ≤ b && b ≤ 90) || (97 ≤ b && b ≤ 122) || b == 45

def digitsVal (s : List Nat) : Nat := s.foldl (fun a c => a * 10 + (c - 48)) 0

/-- `containsOnly(s, numbers)`, `!hasLeadingZeroes(s)`, `strconv.ParseUint(s, 10, 64)` succeeded -/
def parseNum (s : List Nat) : Option Nat :=
  if s.isEmpty then none
  else if !s.all isDigitB then none
  else if s.length > 1 && s.head? == some 48 then none
  else if digitsVal s < 2^64 then some (digitsVal s) else none

/-- `NewPRVersion` -/
def parsePR (s : List Nat) : Option Ident :=
  if s.isEmpty then none
  else if s.all isDigitB then
    (if s.length > 1 && s.head? == some 48 then none
     else if digitsVal s < 2^64 then some (.num (digitsVal s)) else none)
  else if s.all isAlnumB then some (.alpha s)
  else none

def parseBuildPart (s : List Nat) : Option (List Nat) :=
  if s.isEmpty then none else if s.all isAlnumB then some s else none

def mapAllM {α β} (f : α → Option β) : List α → Option (List β)
  | [] => some []
  | a :: as => match f a, mapAllM f as with
    | some b, some bs => some (b :: bs)
    | _, _ => none

/-- `semver.Parse` -/
def parse (s : List Nat) : Option Version :=
  if s.isEmpty then none else
  match splitFirst 46 s with
  | none => none
  | some (majS, r1) =>
    match splitFirst 46 r1 with
    | none => none
    | some (minS, r2) =>
      match parseNum majS, parseNum minS with
      | some major, some minor =>
        let (patch1, buildParts) : List Nat × List (List Nat) :=
          match splitFirst 43 r2 with
          | some (a, b) => (a, splitAll 46 b)
          | none => (r2, [])
        let (patchS, preParts) : List Nat × List (List Nat) :=
          match splitFirst 45 patch1 with
          | some (a, b) => (a, splitAll 46 b)
          | none => (patch1, [])
        match parseNum patchS, mapAllM parsePR preParts, mapAllM parseBuildPart buildParts with
        | some patch, some pre, some build => some ⟨major, minor, patch, pre, build⟩
        | _, _, _ => none
      | _, _ => none

end Rules.Sv
