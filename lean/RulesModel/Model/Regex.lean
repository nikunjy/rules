/-! Model: regular expressions over code points, their Brzozowski derivative and the longest matching prefix, with the
specification theorems (`deriv_iff`, `longest_spec`); the lexer built on them is `Model/Lexer.lean`. -/
namespace Rules

inductive Regex where
  | empty                       -- ∅
  | eps                         -- ε
  | range (lo hi : Nat)         -- one char with code in [lo, hi]
  | notIn (cs : List Nat)       -- one char not in cs
  | seq (a b : Regex)
  | alt (a b : Regex)
  | star (a : Regex)
  deriving Repr, DecidableEq

namespace Regex

/-- denotational semantics -/
inductive Matches : Regex → List Char → Prop
  | eps : Matches .eps []
  | range {lo hi c} : lo ≤ c.toNat → c.toNat ≤ hi → Matches (.range lo hi) [c]
  | notIn {cs c} : c.toNat ∉ cs → Matches (.notIn cs) [c]
  | seq {a b s t} : Matches a s → Matches b t → Matches (.seq a b) (s ++ t)
  | altL {a b s} : Matches a s → Matches (.alt a b) s
  | altR {a b s} : Matches b s → Matches (.alt a b) s
  | starNil {a} : Matches (.star a) []
  | starCons {a s t} : Matches a s → Matches (.star a) t → Matches (.star a) (s ++ t)

def nullable : Regex → Bool
  | .empty => false | .eps => true | .range .. => false | .notIn _ => false
  | .seq a b => a.nullable && b.nullable
  | .alt a b => a.nullable || b.nullable
  | .star _ => true

def deriv (c : Char) : Regex → Regex
  | .empty => .empty | .eps => .empty
  | .range lo hi => if lo ≤ c.toNat ∧ c.toNat ≤ hi then .eps else .empty
  | .notIn cs => if c.toNat ∈ cs then .empty else .eps
  | .seq a b => if a.nullable then .alt (.seq (a.deriv c) b) (b.deriv c) else .seq (a.deriv c) b
  | .alt a b => .alt (a.deriv c) (b.deriv c)
  | .star a => .seq (a.deriv c) (.star a)

/-- cheap emptiness check used to stop early (sound: isEmpty r → no match) -/
def isEmpty : Regex → Bool
  | .empty => true
  | .seq a b => a.isEmpty || b.isEmpty
  | .alt a b => a.isEmpty && b.isEmpty
  | _ => false

def matchesB (r : Regex) : List Char → Bool
  | [] => r.nullable
  | c :: cs => (r.deriv c).matchesB cs

/-- length of the longest prefix of `s` matched by `r` (none if no prefix, incl. the empty one, matches) -/
def longest (r : Regex) (s : List Char) : Option Nat :=
  go r s 0 (if r.nullable then some 0 else none)
where
  go (r : Regex) (s : List Char) (n : Nat) (best : Option Nat) : Option Nat :=
    match s with
    | [] => best
    | c :: cs =>
      let r' := r.deriv c
      if r'.isEmpty then best else
      go r' cs (n + 1) (if r'.nullable then some (n + 1) else best)

theorem not_matches_empty {s : List Char} : ¬ Matches .empty s := nofun

theorem matches_eps_iff {s : List Char} : Matches .eps s ↔ s = [] :=
  ⟨fun h => by cases h; rfl, fun h => h ▸ .eps⟩

theorem matches_range_iff {lo hi : Nat} {s : List Char} :
    Matches (.range lo hi) s ↔ ∃ c, s = [c] ∧ lo ≤ c.toNat ∧ c.toNat ≤ hi := by
  constructor
  · intro h; cases h with | range h1 h2 => exact ⟨_, rfl, h1, h2⟩
  · rintro ⟨c, rfl, h1, h2⟩; exact .range h1 h2

/-- the tables write a single character `c` as `range c c` -/
theorem matches_char_iff {n : Nat} {s : List Char} : Matches (.range n n) s ↔ ∃ c, s = [c] ∧ c.toNat = n := by
  simp only [matches_range_iff, Nat.le_antisymm_iff, and_comm]

theorem matches_notIn_iff {cs : List Nat} {s : List Char} :
    Matches (.notIn cs) s ↔ ∃ c, s = [c] ∧ c.toNat ∉ cs := by
  constructor
  · intro h; cases h with | notIn h1 => exact ⟨_, rfl, h1⟩
  · rintro ⟨c, rfl, h1⟩; exact .notIn h1

theorem matches_seq_iff {a b : Regex} {s : List Char} :
    Matches (.seq a b) s ↔ ∃ s1 s2, s = s1 ++ s2 ∧ Matches a s1 ∧ Matches b s2 := by
  constructor
  · intro h; cases h with | seq h1 h2 => exact ⟨_, _, rfl, h1, h2⟩
  · rintro ⟨s1, s2, rfl, h1, h2⟩; exact .seq h1 h2

theorem matches_alt_iff {a b : Regex} {s : List Char} :
    Matches (.alt a b) s ↔ Matches a s ∨ Matches b s := by
  constructor
  · intro h; cases h with
    | altL h => exact .inl h
    | altR h => exact .inr h
  · rintro (h | h); exact .altL h; exact .altR h

theorem nullable_iff (r : Regex) : r.nullable = true ↔ Matches r [] := by
  induction r with
  | star a _ => exact iff_of_true rfl .starNil
  | _ => simp [nullable, not_matches_empty, matches_eps_iff, matches_range_iff, matches_notIn_iff, matches_seq_iff,
      matches_alt_iff, and_assoc, *]

theorem matches_seq_cons_iff {a b : Regex} {c : Char} {s : List Char} :
    Matches (.seq a b) (c :: s) ↔
      (∃ s1 s2, s = s1 ++ s2 ∧ Matches a (c :: s1) ∧ Matches b s2) ∨ (Matches a [] ∧ Matches b (c :: s)) := by
  simp only [matches_seq_iff, List.cons_eq_append_iff]
  constructor
  · rintro ⟨s1, s2, ⟨rfl, rfl⟩ | ⟨s1, rfl, rfl⟩, h1, h2⟩
    · exact .inr ⟨h1, h2⟩
    · exact .inl ⟨_, _, rfl, h1, h2⟩
  · rintro (⟨s1, s2, rfl, h1, h2⟩ | ⟨h1, h2⟩)
    · exact ⟨_, _, .inr ⟨_, rfl, rfl⟩, h1, h2⟩
    · exact ⟨_, _, .inl ⟨rfl, rfl⟩, h1, h2⟩

theorem star_cons_inv {a : Regex} {c : Char} {s : List Char} (h : Matches (.star a) (c :: s)) :
    ∃ s1 s2, s = s1 ++ s2 ∧ Matches a (c :: s1) ∧ Matches (.star a) s2 := by
  generalize hr : Regex.star a = r at h
  generalize hs : c :: s = t at h
  induction h with
  | starNil => cases hs
  | @starCons a' u v h1 h2 _ ih2 =>
    cases hr
    cases u with
    | nil => exact ih2 rfl (by simpa using hs)
    | cons d u =>
      obtain ⟨rfl, rfl⟩ := hs
      exact ⟨u, v, rfl, h1, h2⟩
  | _ => cases hr

theorem matches_star_cons_iff {a : Regex} {c : Char} {s : List Char} :
    Matches (.star a) (c :: s) ↔ ∃ s1 s2, s = s1 ++ s2 ∧ Matches a (c :: s1) ∧ Matches (.star a) s2 :=
  ⟨star_cons_inv, fun ⟨_, _, e, h1, h2⟩ => e ▸ .starCons h1 h2⟩

theorem deriv_iff (r : Regex) (c : Char) (s : List Char) :
    Matches (r.deriv c) s ↔ Matches r (c :: s) := by
  induction r generalizing s with
  | empty | eps => simp [deriv, not_matches_empty, matches_eps_iff]
  | range lo hi =>
    simp only [deriv, matches_range_iff, List.cons.injEq, and_assoc, exists_eq_left']
    split <;> simp [*, not_matches_empty, matches_eps_iff]
  | notIn cs =>
    simp only [deriv, matches_notIn_iff, List.cons.injEq, and_assoc, exists_eq_left']
    split <;> simp [*, not_matches_empty, matches_eps_iff]
  | seq a b iha ihb =>
    rw [matches_seq_cons_iff, ← nullable_iff]
    cases hn : a.nullable <;> simp [deriv, hn, matches_alt_iff, matches_seq_iff, iha, ihb]
  | alt a b iha ihb => simp only [deriv, matches_alt_iff, iha, ihb]
  | star a iha => simp only [deriv, matches_seq_iff, matches_star_cons_iff, iha]

theorem matchesB_iff (r : Regex) (s : List Char) : r.matchesB s = true ↔ Matches r s := by
  induction s generalizing r with
  | nil => simp [matchesB, nullable_iff]
  | cons c cs ih => simp [matchesB, ih, deriv_iff]

theorem isEmpty_sound (r : Regex) (h : r.isEmpty = true) (s : List Char) : ¬ Matches r s := by
  induction r generalizing s with
  | empty => exact not_matches_empty
  | seq a b iha ihb =>
    simp only [isEmpty, Bool.or_eq_true] at h
    rw [matches_seq_iff]
    rintro ⟨s1, s2, -, h1, h2⟩
    exact h.elim (iha · _ h1) (ihb · _ h2)
  | alt a b iha ihb =>
    simp only [isEmpty, Bool.and_eq_true] at h
    rw [matches_alt_iff]
    exact fun h' => h'.elim (iha h.1 _) (ihb h.2 _)
  | _ => simp [isEmpty] at h

/-- What `longest.go` computes: `res` is `some (n + k)` for the greatest `k ≤ s.length` such that `r` matches the first `k`
characters of `s`, and `best` if there is no such `k`. -/
def GoSpec (r : Regex) (s : List Char) (n : Nat) (best res : Option Nat) : Prop :=
  (res = best ∧ ∀ k, k ≤ s.length → ¬ Matches r (s.take k)) ∨
  ∃ k, k ≤ s.length ∧ res = some (n + k) ∧ Matches r (s.take k) ∧
    ∀ k', k < k' → k' ≤ s.length → ¬ Matches r (s.take k')

theorem GoSpec.start {r : Regex} {s : List Char} {n : Nat} {best : Option Nat}
    (h : ∀ k, k < s.length → ¬ Matches r (s.take (k + 1))) :
    GoSpec r s n best (if r.nullable then some n else best) := by
  by_cases hn : r.nullable = true
  · refine .inr ⟨0, Nat.zero_le _, by simp [hn], (nullable_iff r).1 hn, fun k' h0 hk' => ?_⟩
    obtain ⟨j, rfl⟩ := Nat.exists_eq_add_one_of_ne_zero (Nat.ne_of_gt h0)
    exact h j hk'
  · refine .inl ⟨by simp [hn], fun k hk => ?_⟩
    cases k with
    | zero => exact mt (nullable_iff r).2 hn
    | succ j => exact h j hk

/-- Both `longest` and `go` itself call `go` with the verdict on the empty prefix as the best so far. -/
theorem go_spec (r : Regex) (s : List Char) (n : Nat) (best : Option Nat) :
    GoSpec r s n best (longest.go r s n (if r.nullable then some n else best)) := by
  induction s generalizing r n best with
  | nil => exact .start nofun
  | cons c cs ih =>
    have shift (k : Nat) : Matches r ((c :: cs).take (k + 1)) ↔ Matches (r.deriv c) (cs.take k) :=
      (deriv_iff r c _).symm
    rw [longest.go]
    split
    next he => exact .start fun k _ => mt (shift k).1 (isEmpty_sound _ he _)
    next =>
      rcases ih (r.deriv c) (n + 1) (if r.nullable then some n else best) with ⟨hgo, hno⟩ | ⟨k, hk, hgo, hm, hmax⟩
      · rw [hgo]
        exact .start fun k hk => mt (shift k).1 (hno k (Nat.le_of_lt_succ hk))
      · refine .inr ⟨k + 1, Nat.succ_le_succ hk, by rw [hgo, Nat.add_assoc, Nat.add_comm 1], (shift k).2 hm,
          fun k' h hk' => ?_⟩
        obtain ⟨j, rfl⟩ := Nat.exists_eq_add_one_of_ne_zero (Nat.ne_of_gt (Nat.zero_lt_of_lt h))
        exact mt (shift j).1 (hmax j (Nat.lt_of_succ_lt_succ h) (Nat.le_of_succ_le_succ hk'))

theorem longest_spec (r : Regex) (s : List Char) :
    match longest r s with
    | none => ∀ k, k ≤ s.length → ¬ Matches r (s.take k)
    | some n => n ≤ s.length ∧ Matches r (s.take n) ∧ ∀ k, n < k → k ≤ s.length → ¬ Matches r (s.take k) := by
  rcases go_spec r s 0 none with ⟨h, hno⟩ | ⟨k, hk, h, hm, hmax⟩ <;> rw [longest, h]
  · exact hno
  · rw [Nat.zero_add]; exact ⟨hk, hm, hmax⟩

theorem longest_eq_some_iff {r : Regex} {s : List Char} {n : Nat} : longest r s = some n ↔
    n ≤ s.length ∧ Matches r (s.take n) ∧ ∀ k, n < k → k ≤ s.length → ¬ Matches r (s.take k) := by
  rcases go_spec r s 0 none with ⟨h, hno⟩ | ⟨k, hk, h, hm, hmax⟩ <;> rw [longest, h]
  · exact ⟨nofun, fun h' => absurd h'.2.1 (hno n h'.1)⟩
  · rw [Nat.zero_add, Option.some.injEq]
    refine ⟨fun e => e ▸ ⟨hk, hm, hmax⟩, fun ⟨hn, hm', hmax'⟩ => ?_⟩
    exact Nat.le_antisymm (Nat.le_of_not_lt fun hlt => hmax' k hlt hk hm) (Nat.le_of_not_lt fun hlt => hmax n hlt hn hm')

/-- length of the longest prefix of `s` that `r` matches, 0 if it matches none (all that
`bestMatch` uses of `longest`) -/
def matchLen (r : Regex) (s : List Char) : Nat := (longest r s).getD 0

theorem matchLen_spec (r : Regex) (s : List Char) :
    r.matchLen s ≤ s.length ∧ (0 < r.matchLen s → Matches r (s.take (r.matchLen s))) ∧
      ∀ k, r.matchLen s < k → k ≤ s.length → ¬ Matches r (s.take k) := by
  rcases go_spec r s 0 none with ⟨h, hno⟩ | ⟨k, hk, h, hm, hmax⟩ <;> rw [matchLen, longest, h]
  · exact ⟨Nat.zero_le _, (absurd · (Nat.lt_irrefl 0)), fun k _ => hno k⟩
  · rw [Nat.zero_add]; exact ⟨hk, fun _ => hm, hmax⟩

theorem matchLen_le (r : Regex) (s : List Char) : r.matchLen s ≤ s.length := (matchLen_spec r s).1

theorem matches_matchLen {r : Regex} {s : List Char} (h : 0 < r.matchLen s) : Matches r (s.take (r.matchLen s)) :=
  (matchLen_spec r s).2.1 h

theorem le_matchLen {r : Regex} {s : List Char} {m : Nat} (hm : m ≤ s.length) (h : Matches r (s.take m)) :
    m ≤ r.matchLen s :=
  Nat.le_of_not_lt fun hlt => (matchLen_spec r s).2.2 m hlt hm h

theorem matchLen_eq_length_iff {r : Regex} {s : List Char} (hs : s ≠ []) : r.matchLen s = s.length ↔ Matches r s := by
  refine ⟨fun e => ?_, fun h => Nat.le_antisymm (matchLen_le r s) (le_matchLen (Nat.le_refl _) (by simpa using h))⟩
  simpa [e] using matches_matchLen (r := r) (s := s) (e ▸ List.length_pos_iff.2 hs)

end Regex

theorem char_le (c : Char) : c.toNat ≤ 0x10FFFF := by
  have h := c.valid
  show c.val.toNat ≤ _
  omega

end Rules
