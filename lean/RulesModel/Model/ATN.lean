import RulesModel.Model.ENFA
/-!
# Two ε-NFAs: a regex read as an automaton, and a serialised ANTLR lexer ATN

* `rxM` – states are *continuations* (lists of regexes still to be matched); `rx_lang : Lang rxM [r] s ↔ Matches r s`.
* `atnM A stop` – states are `(ATN state, stack of follow states)`; this **is** the model of how the ANTLR runtime reads
  a lexer ATN for one token rule (without predicates and EOF edges: `jsonquery_lexer.go` has none, and the translator
  refuses ATNs that have; an action edge is read as an ε-edge): an ε-edge moves, a rule edge pushes its follow state and enters the
  callee, a rule-stop state pops, a character edge consumes one code point that passes its test; accepted = the stop
  state of the token rule with an empty stack.
* `explore` – an (untrusted) search for a bisimulation certificate; what counts is `NFA.checkCert` on its result.
-/
namespace Rules.NFA
open Rules Rules.Regex

def rxEps : List Regex → List (List Regex)
  | .eps :: k => [k]
  | .seq a b :: k => [a :: b :: k]
  | .alt a b :: k => [a :: k, b :: k]
  | .star a :: k => [k, a :: .star a :: k]
  | _ => []

def rxChr : List Regex → List (CharPred × List Regex)
  | .range lo hi :: k => [(⟨false, [(lo, hi)]⟩, k)]
  | .notIn cs :: k => [(⟨true, cs.map fun c => (c, c)⟩, k)]
  | _ => []

def rxM : ENFA (List Regex) := { eps := rxEps, chr := rxChr, acc := List.isEmpty }

/-- a string split along a continuation -/
def MatchesK : List Regex → List Char → Prop
  | [], s => s = []
  | r :: k, s => ∃ s1 s2, s = s1 ++ s2 ∧ Matches r s1 ∧ MatchesK k s2

theorem test_range (lo hi c : Nat) : (CharPred.mk false [(lo, hi)]).test c = (decide (lo ≤ c) && decide (c ≤ hi)) := by
  simp [CharPred.test]

theorem test_notIn (cs : List Nat) (c : Nat) : (CharPred.mk true (cs.map fun x => (x, x))).test c = !decide (c ∈ cs) := by
  rw [CharPred.test, Bool.true_bne]
  congr 1
  rw [Bool.eq_iff_iff]
  simp only [List.any_map, List.any_eq_true, Function.comp, Bool.and_eq_true, decide_eq_true_eq]
  exact ⟨fun ⟨x, hx, h1, h2⟩ => Nat.le_antisymm h2 h1 ▸ hx, fun h => ⟨c, h, Nat.le_refl c, Nat.le_refl c⟩⟩

theorem matchesK_eps {k : List Regex} {s : List Char} : ∀ k' ∈ rxEps k, MatchesK k' s → MatchesK k s := by
  fun_cases rxEps k <;> simp only [List.mem_cons, List.not_mem_nil, or_false, forall_eq_or_imp, forall_eq]
  · exact fun h => ⟨[], s, rfl, .eps, h⟩
  · rintro ⟨s1, _, rfl, ha, s2, s3, rfl, hb, hk⟩
    exact ⟨s1 ++ s2, s3, (List.append_assoc ..).symm, .seq ha hb, hk⟩
  · exact ⟨fun ⟨s1, s2, e, ha, hk⟩ => ⟨s1, s2, e, .altL ha, hk⟩, fun ⟨s1, s2, e, hb, hk⟩ => ⟨s1, s2, e, .altR hb, hk⟩⟩
  · refine ⟨fun h => ⟨[], s, rfl, .starNil, h⟩, ?_⟩
    rintro ⟨s1, _, rfl, ha, s2, s3, rfl, hs, hk⟩
    exact ⟨s1 ++ s2, s3, (List.append_assoc ..).symm, .starCons ha hs, hk⟩
  · nofun

theorem matchesK_chr {k : List Regex} {c : Char} {s : List Char} :
    ∀ pk ∈ rxChr k, pk.1.test c.toNat = true → MatchesK pk.2 s → MatchesK k (c :: s) := by
  fun_cases rxChr k <;> simp only [List.mem_cons, List.not_mem_nil, or_false, forall_eq]
  · rw [test_range, Bool.and_eq_true, decide_eq_true_eq, decide_eq_true_eq]
    exact fun ht h => ⟨[c], s, rfl, .range ht.1 ht.2, h⟩
  · rw [test_notIn, Bool.not_eq_true', decide_eq_false_iff_not]
    exact fun ht h => ⟨[c], s, rfl, .notIn ht, h⟩
  · nofun

theorem rx_sound {k : List Regex} {s : List Char} (h : Lang rxM k s) : MatchesK k s := by
  induction h with
  | @acc q ha =>
    cases q with
    | nil => rfl
    | cons _ _ => cases ha
  | eps he _ ih => exact matchesK_eps _ he ih
  | chr hm ht _ ih => exact matchesK_chr _ hm ht ih

theorem rx_push {r : Regex} {s1 : List Char} (h : Matches r s1) {k : List Regex} {s2 : List Char}
    (hk : Lang rxM k s2) : Lang rxM (r :: k) (s1 ++ s2) := by
  induction h generalizing k s2 with
  | eps | starNil => exact .eps (by simp [rxM, rxEps]) hk
  | @range lo hi c h1 h2 =>
    exact .chr (p := ⟨false, [(lo, hi)]⟩) (by simp [rxM, rxChr]) (by rw [test_range]; simp [h1, h2]) hk
  | @notIn cs c h1 =>
    exact .chr (p := ⟨true, cs.map fun x => (x, x)⟩) (by simp [rxM, rxChr]) (by rw [test_notIn]; simp [h1]) hk
  | seq _ _ iha ihb => rw [List.append_assoc]; exact .eps (by simp [rxM, rxEps]) (iha (ihb hk))
  | altL _ ih | altR _ ih => exact .eps (by simp [rxM, rxEps]) (ih hk)
  | starCons _ _ iha ihs => rw [List.append_assoc]; exact .eps (by simp [rxM, rxEps]) (iha (ihs hk))

/-- **the continuation automaton of a regex accepts exactly what the regex matches** -/
theorem rx_lang (r : Regex) (s : List Char) : Lang rxM [r] s ↔ Matches r s := by
  constructor
  · intro h
    obtain ⟨s1, s2, rfl, hr, hk⟩ := rx_sound h
    cases hk
    simpa using hr
  · intro h
    simpa using rx_push h (.acc rfl)

inductive Edge where
  | eps (src dst : Nat)
  | chr (src : Nat) (p : CharPred) (dst : Nat)
  | call (src callee follow : Nat)
  deriving DecidableEq, Repr

structure ATN where
  edges : List Edge
  stops : List Nat
  deriving Repr

abbrev Cfg := Nat × List Nat

def atnEps (A : ATN) (c : Cfg) : List Cfg :=
  if A.stops.contains c.1 then
    (match c.2 with
     | f :: st => [(f, st)]
     | [] => [])
  else A.edges.filterMap fun e =>
    match e with
    | .eps s d => if s = c.1 then some (d, c.2) else none
    | .call s cal f => if s = c.1 then some (cal, f :: c.2) else none
    | .chr _ _ _ => none

def atnChr (A : ATN) (c : Cfg) : List (CharPred × Cfg) :=
  if A.stops.contains c.1 then [] else A.edges.filterMap fun e =>
    match e with
    | .chr s p d => if s = c.1 then some (p, (d, c.2)) else none
    | _ => none

def atnM (A : ATN) (stop : Nat) : ENFA Cfg :=
  { eps := atnEps A, chr := atnChr A, acc := fun c => decide (c.1 = stop) && c.2.isEmpty }

section search
variable {σ : Type} [DecidableEq σ]

def insertAll (S : List σ) (xs : List σ) : List σ := xs.foldl (fun acc x => if acc.contains x then acc else acc ++ [x]) S

def closeList (M : ENFA σ) : Nat → List σ → List σ
  | 0, S => S
  | n + 1, S =>
    let S' := insertAll S (S.flatMap M.eps)
    if S'.length = S.length then S else closeList M n S'

def stepSet (M : ENFA σ) (S : List σ) (a : Nat) : List σ :=
  insertAll [] (S.flatMap fun q => (M.chr q).filterMap fun py => if py.1.test a then some py.2 else none)

def sameSet (A B : List σ) : Bool := A.all B.contains && B.all A.contains
end search

section explore
variable {σ₁ σ₂ : Type} [DecidableEq σ₁] [DecidableEq σ₂]

def addPair (ps : List (List σ₁ × List σ₂)) (pq : List σ₁ × List σ₂) : List (List σ₁ × List σ₂) :=
  if ps.any (fun x => sameSet x.1 pq.1 && sameSet x.2 pq.2) then ps else ps ++ [pq]

/-- breadth-first over pairs of state sets: `ps[i]` is the next pair to expand, by every class of `cls`; `fc` bounds each
ε-closure, the first `Nat` the number of rounds -/
def explore (M₁ : ENFA σ₁) (M₂ : ENFA σ₂) (cls : List (Nat × Nat)) (fc : Nat) :
    Nat → Nat → List (List σ₁ × List σ₂) → List (List σ₁ × List σ₂)
  | 0, _, ps => ps
  | n + 1, i, ps =>
    match ps[i]? with
    | none => ps
    | some pq =>
      explore M₁ M₂ cls fc n (i + 1)
        (cls.foldl (fun ps ab => addPair ps (closeList M₁ fc (stepSet M₁ pq.1 ab.1), closeList M₂ fc (stepSet M₂ pq.2 ab.1))) ps)
end explore

/-- the certificate the search finds for one token rule -/
def ruleCert (A : ATN) (re : Regex) (start stop : Nat) (cls : List (Nat × Nat)) (fuel : Nat) : Cert (List Regex) Cfg :=
  { pairs := explore rxM (atnM A stop) cls fuel fuel 0 [(closeList rxM fuel [[re]], closeList (atnM A stop) fuel [(start, [])])],
    classes := cls }

/-- everything `rule_equiv` needs, as one executable test -/
def ruleOK (A : ATN) (re : Regex) (start stop : Nat) (cls : List (Nat × Nat)) (fuel : Nat) : Bool :=
  let C := ruleCert A re start stop cls fuel
  checkCert rxM (atnM A stop) C &&
  (match C.pairs.head? with
   | some pq => pq.1.contains [re] && pq.2.contains (start, []) &&
       justB rxM (fun x => decide (x = [re])) pq.1 && justB (atnM A stop) (fun x => decide (x = (start, []))) pq.2
   | none => false)

/-- **the ATN of a token rule accepts exactly what the grammar's rule matches**, when the test passes -/
theorem rule_equiv (A : ATN) (re : Regex) (start stop : Nat) (cls : List (Nat × Nat)) (fuel : Nat)
    (h : ruleOK A re start stop cls fuel = true) (s : List Char) :
    Lang (atnM A stop) (start, []) s ↔ Matches re s := by
  simp only [ruleOK, Bool.and_eq_true] at h
  obtain ⟨hc, hh⟩ := h
  cases hp : (ruleCert A re start stop cls fuel).pairs.head? with
  | none => simp [hp] at hh
  | some pq =>
    simp only [hp, Bool.and_eq_true, List.contains_iff_mem] at hh
    obtain ⟨⟨⟨h1, h2⟩, hj1⟩, hj2⟩ := hh
    have hm : pq ∈ (ruleCert A re start stop cls fuel).pairs := List.mem_of_mem_head? hp
    have := cert_start rxM (atnM A stop) _ hc [re] (start, []) pq.1 pq.2 hm h1 h2 hj1 hj2 s
    rw [← rx_lang re s]
    exact this.symm

end Rules.NFA
