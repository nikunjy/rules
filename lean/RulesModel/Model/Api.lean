import RulesModel.Model.Visitor
import RulesModel.Model.Lexer
/-!
# `evaluate.go` (both packages): NewEvaluator, Process, Reset, LastDebugErr, the two `Evaluate` functions
and the compositional reading `combine` of a rule (Spec layer, DESIGN-round0 §3.9).

Everything is generic in the token table `rules` (instantiated with the table regenerated from JsonQuery.g4)
and in `lower` (strings.ToLower).
-/
namespace Rules
open Rules.P (Tree Lit Kind Tok)

/-- Unicode White_Space, as `strings.TrimSpace` uses it -/
def isSpaceRune (c : Char) : Bool :=
  let n := c.toNat
  n == 0x20 || (0x09 ≤ n && n ≤ 0x0D) || n == 0x85 || n == 0xA0 || n == 0x1680 ||
  (0x2000 ≤ n && n ≤ 0x200A) || n == 0x2028 || n == 0x2029 || n == 0x202F || n == 0x205F || n == 0x3000

def trimSpace (s : List Char) : List Char :=
  ((s.dropWhile isSpaceRune).reverse.dropWhile isSpaceRune).reverse

def toTok (t : Token) : Tok := ⟨t.kind, String.ofList t.text⟩

/-- lexer + parser: the tree of a rule text, `none` when the text is not a sentence -/
def lexParse (rules : List (Kind × Regex)) (s : List Char) : Option Tree :=
  match lex rules s with
  | none => none
  | some ts => P.parse (ts.map toTok)

/-- `Sentence`: the text is derived by the grammar (lexically by the token table, syntactically by `D`) -/
def Sentence (rules : List (Kind × Regex)) (s : List Char) : Prop :=
  ∃ ts t, lex rules s = some ts ∧ P.D false (ts.map toTok) t

structure Evaluator where
  tree : Option Tree              -- `none`: Evaluator.syntaxErr is set
  lastDebug : Option Dbg
  deriving Repr

/-- `parser.NewEvaluator` (never returns an error itself; repair D4 stores the syntax error) -/
def newEvaluator (rules : List (Kind × Regex)) (text : List Char) : Evaluator :=
  { tree := lexParse rules (trimSpace text), lastDebug := none }

def syntaxOut : ProcOut := { verdict := false, err := some .syntax, debug := none, calls := [] }

/-- `Evaluator.Process`, parametric in what evaluating the tree on an object yields -/
def Evaluator.processWith (pf : Tree → List (Bytes × Value) → ProcOut) (e : Evaluator)
    (item : List (Bytes × Value)) : Evaluator × ProcOut :=
  match e.tree with
  | none => ({ e with lastDebug := none }, syntaxOut)
  | some t =>
    let o := pf t item
    ({ e with lastDebug := o.debug }, o)

def Evaluator.process (lower : Bytes → Bytes) := Evaluator.processWith (processTree lower)

inductive ApiOp where
  | process (item : List (Bytes × Value))
  | reset
  | lastDebug

inductive ApiOut where
  | proc (o : ProcOut)
  | unit
  | dbg (d : Option Dbg)
  deriving Repr, DecidableEq

def stepWith (pf : Tree → List (Bytes × Value) → ProcOut) (e : Evaluator) : ApiOp → Evaluator × ApiOut
  | .process item => let (e', o) := e.processWith pf item; (e', .proc o)
  | .reset => ({ e with lastDebug := none }, .unit)
  | .lastDebug => (e, .dbg e.lastDebug)

def runWith (pf : Tree → List (Bytes × Value) → ProcOut) (e : Evaluator) : List ApiOp → List ApiOut
  | [] => []
  | op :: ops => let (e', o) := stepWith pf e op; o :: runWith pf e' ops

/-- `rules.Evaluate` -/
def rulesEvaluate (rules : List (Kind × Regex)) (lower : Bytes → Bytes) (text : List Char)
    (item : List (Bytes × Value)) : ProcOut :=
  ((newEvaluator rules text).process lower item).2

/-- `parser.Evaluate` -/
def parserEvaluate (rules : List (Kind × Regex)) (lower : Bytes → Bytes) (text : List Char)
    (item : List (Bytes × Value)) : Bool :=
  ((newEvaluator rules text).process lower item).2.verdict

/-! ### Spec layer: a rule is the short-circuit combination of its comparisons evaluated alone -/

/-- outcome of a compound rule from the outcomes `leaf l` of its comparisons evaluated stand-alone:
left to right, `and`/`or` short-circuit, `not` negates, the first failure is final, the diagnostic is
that of the last reached comparison that has one, Stringer calls are concatenated. -/
def combine (leaf : Tree → ProcOut) : Tree → ProcOut
  | .paren neg q =>
    let o := combine leaf q
    if o.err.isSome then o else { o with verdict := if neg then !o.verdict else o.verdict }
  | .logical op l r =>
    let a := combine leaf l
    if a.err.isSome then a
    else if op = "or" then
      (if a.verdict then a else
        let b := combine leaf r
        { b with debug := b.debug.orElse (fun _ => a.debug), calls := a.calls ++ b.calls })
    else
      (if !a.verdict then a else
        let b := combine leaf r
        { b with debug := b.debug.orElse (fun _ => a.debug), calls := a.calls ++ b.calls })
  | t => leaf t

end Rules
