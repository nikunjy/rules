import RulesModel.Model.Regex
import RulesModel.Model.Lexer
import RulesModel.Model.LexSep
import RulesModel.Model.Grammar
import RulesModel.Model.F64
import RulesModel.Model.SemverOrder
import RulesModel.Model.Value
import RulesModel.Model.Semver
import RulesModel.Model.Ops
import RulesModel.Model.Visitor
import RulesModel.Model.Api
import RulesModel.Model.NestedError
import RulesModel.Model.Spec
import RulesModel.Model.Cst
import RulesModel.Model.GoRT
import RulesModel.Model.GoRTOps
import RulesModel.Model.ENFA
import RulesModel.Model.ATN
import RulesModel.Expected.LexTable
import RulesModel.Generated.Grammar
import RulesModel.Generated.Facts
import RulesModel.Generated.Visitor
import RulesModel.Generated.Ops
import RulesModel.Generated.LexerATN
import RulesModel.Tie.LexTable
import RulesModel.Tie.ParserRules
import RulesModel.Tie.TokenConsts
import RulesModel.Tie.OpsNumeric
import RulesModel.Tie.OpsString
import RulesModel.Tie.OpsVersion
import RulesModel.Tie.OpsNullBool
import RulesModel.Tie.OpsSupport
import RulesModel.Tie.OpsErrMode
import RulesModel.Tie.Dispatch
import RulesModel.Tie.PkgState
import RulesModel.Tie.Observers
import RulesModel.Tie.LexerATN
import RulesModel.Tie.LexerATNProof
import RulesModel.Proofs.ParseSound
import RulesModel.Proofs.ParseStep
import RulesModel.Proofs.ParseComplete
import RulesModel.Proofs.OpsLemmas
import RulesModel.Proofs.VisitFrame
import RulesModel.Proofs.F64Order
import RulesModel.Proofs.Outcome
import RulesModel.Proofs.Refine
import RulesModel.Proofs.C01
import RulesModel.Proofs.C02
import RulesModel.Proofs.C06
import RulesModel.Proofs.C16
import RulesModel.Proofs.C17
import RulesModel.Proofs.C05
import RulesModel.Proofs.C07
import RulesModel.Proofs.C08
import RulesModel.Proofs.C10
import RulesModel.Proofs.C11
import RulesModel.Proofs.C13
import RulesModel.Proofs.C14
import RulesModel.Proofs.C19
import RulesModel.Proofs.C03
import RulesModel.Proofs.C04
import RulesModel.Proofs.C09
import RulesModel.Proofs.C18
import RulesModel.Proofs.C12
import RulesModel.Proofs.C15
import RulesModel.Proofs.C20
import RulesModel.Proofs.Regress
import RulesModel.Proofs.TableSem
import RulesModel.Proofs.LexClosed
import RulesModel.Proofs.LexAdj
import RulesModel.Proofs.LexAhead
import RulesModel.Proofs.Render
import RulesModel.Proofs.GrammarAmb
import RulesModel.Proofs.EndToEnd
import RulesModel.Proofs.LexChar
import RulesModel.Proofs.VisitorGen
import RulesModel.Proofs.OpsGen
import RulesModel.Proofs.SourceToSpec
import RulesModel.Proofs.Composed
import RulesModel.Proofs.LexSigned
import RulesModel.Proofs.C15SignedTable
import RulesModel.Proofs.C15Sentences
import RulesModel.Proofs.C15StringClosed
import RulesModel.Proofs.FastCert
